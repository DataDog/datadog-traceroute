-- Root of the `TRV` library: `lake build` checks every model, specification, proof and property module
-- (`./check` builds, per property, the modules its `checks.d/CNN.json` lists).  The oracle's modules
-- `TRV.Oracle.*` belong to the executable target `trv_oracle`.
import TRV.Props.All
