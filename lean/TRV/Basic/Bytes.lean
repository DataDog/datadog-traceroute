/-!
# Bytes: the shared byte-string vocabulary

`Bytes = List (BitVec 8)`.  Multi-byte fields are decoded to `Nat` arithmetically (big endian) and
encoded with `byte (n / 256), byte (n % 256)`; wrap-around is used only where the Go code relies on
it.  `Window w d k` says "w is a window into d starting at offset k"; every decoder of `TRV.Wire`
has a `_spec` lemma (`Proofs/Wire.lean`) phrased with windows so that matcher soundness can be stated
on the raw bytes of the packet.  Definitions only: their lemmas are in `Proofs/Bytes.lean`.
-/

abbrev Byte := BitVec 8
abbrev Bytes := List Byte

namespace TRV

def byte (n : Nat) : Byte := BitVec.ofNat 8 n
def be16 (n : Nat) : Bytes := [byte (n / 256), byte (n % 256)]
def be32 (n : Nat) : Bytes := be16 (n / 65536) ++ be16 (n % 65536)

def u8 (b : Bytes) (off : Nat) : Option Nat := (b[off]?).map BitVec.toNat
def u16 (b : Bytes) (off : Nat) : Option Nat :=
  match u8 b off, u8 b (off+1) with
  | some hi, some lo => some (hi * 256 + lo)
  | _, _ => none
def u32 (b : Bytes) (off : Nat) : Option Nat :=
  match u16 b off, u16 b (off+2) with
  | some hi, some lo => some (hi * 65536 + lo)
  | _, _ => none

/-- big-endian value of a whole byte string (used for addresses) -/
def beNat (b : Bytes) : Nat := b.foldl (fun acc x => acc * 256 + x.toNat) 0

/-- `w` is a window into `d` starting at `k` -/
def Window (w d : Bytes) (k : Nat) : Prop := ∀ j x, w[j]? = some x → d[k+j]? = some x

/-! ## Hex I/O for the oracle line protocol -/

def hexDigit (c : Char) : Option Nat :=
  if '0' ≤ c ∧ c ≤ '9' then some (c.toNat - '0'.toNat)
  else if 'a' ≤ c ∧ c ≤ 'f' then some (c.toNat - 'a'.toNat + 10)
  else if 'A' ≤ c ∧ c ≤ 'F' then some (c.toNat - 'A'.toNat + 10)
  else none

def parseHexChars : List Char → Option Bytes
  | [] => some []
  | [_] => none
  | a :: b :: rest => do
    let x ← hexDigit a
    let y ← hexDigit b
    let r ← parseHexChars rest
    pure (byte (x * 16 + y) :: r)

/-- `-` denotes the empty string -/
def parseHex (s : String) : Option Bytes :=
  if s = "-" then some [] else parseHexChars s.toList

def hexChar (n : Nat) : Char :=
  if n < 10 then Char.ofNat (n + '0'.toNat) else Char.ofNat (n - 10 + 'a'.toNat)

def toHex (b : Bytes) : String :=
  if b.isEmpty then "-" else
  String.ofList (b.flatMap fun x => [hexChar (x.toNat / 16), hexChar (x.toNat % 16)])

end TRV
