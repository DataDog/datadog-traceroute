import TRV.Spec.Wrapper
import TRV.Proofs.Engine
/-! Helper lemmas for C10 (wrapper atomicity and handle discipline).

Every return of an entry point is an `Exit`: its log is a fixed frame of opens and closes
`pre ++ post` with calls on the open source and sink in between, and its result is an error that
accounts for the faults hit, or what `conclude` makes of an engine run.  `parWalk_sound` …
`hsLoop_sound` say of the engine part what such a return needs; `icmp_exit` … `sack_exit` go once
through the returns of each entry point; the spec predicates are read off `Exit`. -/
namespace TRV.Proofs.Wrapper
open TRV.Engine TRV.Wrapper TRV.Spec.Wrapper

/-- what a call with effect `e` records (by cases on `e`: for a known effect `hitOf_spec he` is the clause
    itself, e.g. the equation `hitOf plan op k = []` for `.pass`) -/
def Recorded (op : FOp) (k : Nat) (hs : List Fault) : Eff → Prop
  | .pass => hs = []
  | .timeout => hs.filter nonBenign = []
  | .fail => ∃ f, hs = [f] ∧ nonBenign f = true ∧ causeOf f = .injected op k
  | .zero => ∃ f, hs = [f] ∧ nonBenign f = true ∧ causeOf f = .zeroRead

theorem hitOf_spec {plan : FaultPlan} {op : FOp} {k : Nat} {e : Eff} (h : eff plan op k = e) :
    Recorded op k (hitOf plan op k) e := by
  subst h
  unfold eff hitOf
  cases lookup plan op k with
  | none => rfl
  | some c =>
    -- the table of `effect`, entry by entry: nothing or a benign fault, or the fault with its cause
    cases op <;> cases c <;> first | rfl | exact ⟨_, rfl, rfl, rfl⟩

theorem eff_fail {plan : FaultPlan} {op : FOp} {k : Nat} (hop : op ≠ .read) :
    eff plan op k ≠ .pass → eff plan op k = .fail := by
  unfold eff
  cases lookup plan op k with
  | none => exact fun h => absurd rfl h
  | some c => cases op <;> cases c <;> simp_all [effect]

/-- the faults in `hit` are accounted for by `fe`: if one of them is not benign, `fe` is an error
    whose chain holds the cause of such a fault -/
def Accounted (hit : List Fault) (fe : Option ErrChain) : Prop :=
  hit.filter nonBenign ≠ [] →
    ∃ c, fe = some c ∧ ∃ f ∈ hit.filter nonBenign, Link.cause (causeOf f) ∈ c

theorem accounted_of_benign {hit : List Fault} (h : hit.filter nonBenign = []) (fe : Option ErrChain) :
    Accounted hit fe := fun hne => absurd h hne

theorem accounted_nil (fe : Option ErrChain) : Accounted [] fe := accounted_of_benign rfl fe

theorem accounted_none {hit : List Fault} (h : Accounted hit none) : hit.filter nonBenign = [] := by
  by_cases hb : hit.filter nonBenign = []
  · exact hb
  · obtain ⟨_, h1, _⟩ := h hb
    cases h1

theorem accounted_append {hs rest : List Fault} {fe : Option ErrChain} (h : hs.filter nonBenign = [])
    (hr : Accounted rest fe) : Accounted (hs ++ rest) fe := by
  unfold Accounted
  rw [List.filter_append, h]
  exact hr

theorem accounted_of_recorded {hs hit : List Fault} {c : ErrChain} {cz : Cause}
    (hr : ∃ f, hs = [f] ∧ nonBenign f = true ∧ causeOf f = cz) (hsub : hs ⊆ hit)
    (hc : Link.cause cz ∈ c) : Accounted hit (some c) := by
  obtain ⟨f, rfl, hn, rfl⟩ := hr
  exact fun _ => ⟨c, rfl, f, List.mem_filter.mpr ⟨hsub (.head _), hn⟩, hc⟩

theorem Accounted.mono {hit : List Fault} {c c' : ErrChain} (h : Accounted hit (some c)) (hs : c ⊆ c') :
    Accounted hit (some c') := by
  intro hne
  obtain ⟨_, h1, f, hf, hm⟩ := h hne
  cases h1
  exact ⟨c', rfl, f, hf, hs hm⟩

/-- a call on the source or the sink -/
def isUse : Ev → Bool
  | .filter | .deadline | .read | .write => true
  | _ => false

theorem not_mem_uses {l : CallLog} (h : l.all isUse = true) {e : Ev} (he : isUse e = false) : e ∉ l :=
  fun hm => by simp [List.all_eq_true.mp h e hm] at he

theorem count_open_uses {l : CallLog} (h : l.all isUse = true) (x : Handle) : l.count (.open x) = 0 :=
  List.count_eq_zero.mpr (not_mem_uses h rfl)

theorem count_close_uses {l : CallLog} (h : l.all isUse = true) (x : Handle) : l.count (.close x) = 0 :=
  List.count_eq_zero.mpr (not_mem_uses h rfl)

theorem uses_ne {l : CallLog} (h : l.all isUse = true) {x : Handle} (hs : x ≠ .source) (hk : x ≠ .sink) :
    l.all (fun e => usesHandle e != some x) = true := by
  rw [List.all_eq_true] at h ⊢
  intro e he
  cases e with
  | «open» _ | close _ => exact absurd (h _ he) nofun
  | write => simpa [usesHandle] using Ne.symm hk
  | _ => simpa [usesHandle] using Ne.symm hs

theorem nuac_uses_append {l : CallLog} (h : l.all isUse = true) (r : CallLog) :
    noUseAfterClose (l ++ r) = noUseAfterClose r := by
  induction l with
  | nil => rfl
  | cons e l ih =>
    simp only [List.all_cons, Bool.and_eq_true] at h
    obtain ⟨h1, h2⟩ := h
    cases e <;> simp [isUse] at h1 <;> simp [noUseAfterClose, ih h2]

theorem closeOnce_insert {pre mid post : CallLog} (hm : mid.all isUse = true) :
    closeOnce (pre ++ mid ++ post) = closeOnce (pre ++ post) := by
  simp [closeOnce, List.count_append, count_open_uses hm, count_close_uses hm]

theorem nuac_insert {mid : CallLog} (hm : mid.all isUse = true) (post : CallLog) : ∀ {pre : CallLog},
    .close .source ∉ pre → .close .sink ∉ pre →
    noUseAfterClose (pre ++ mid ++ post) = noUseAfterClose (pre ++ post)
  | [], _, _ => nuac_uses_append hm post
  | e :: pre, hs, hk => by
    have ih := nuac_insert hm post (pre := pre) (fun h => hs (.tail _ h)) (fun h => hk (.tail _ h))
    cases e with
    | close h =>
      have := uses_ne hm (x := h) (fun e => hs (e ▸ .head _)) (fun e => hk (e ▸ .head _))
      simp only [List.cons_append, noUseAfterClose, ih, List.all_append, this, Bool.and_true]
    | _ => exact ih

/-- the check of one frame: `pre ++ post` keeps the handle discipline (exactly-once only where
    `once`) and `pre` leaves the source and the sink open -/
def framed (once : Bool) (pre post : CallLog) : Bool :=
  (!once || closeOnce (pre ++ post)) && noUseAfterClose (pre ++ post) &&
  !pre.contains (.close .source) && !pre.contains (.close .sink)

theorem framed_iff {once : Bool} {pre post : CallLog} :
    framed once pre post = true ↔
      (once = true → closeOnce (pre ++ post) = true) ∧ noUseAfterClose (pre ++ post) = true ∧
      .close .source ∉ pre ∧ .close .sink ∉ pre := by
  cases once <;> simp [framed, and_assoc]

theorem framed_mono {once : Bool} {pre post : CallLog} (h : framed true pre post = true) :
    framed once pre post = true :=
  framed_iff.2 ⟨fun _ => (framed_iff.1 h).1 rfl, (framed_iff.1 h).2⟩

/-! ### the engine walks

`Sound` is all that the wrappers need of a walk's trace; each walk function has one `_sound` lemma
(`parWalk` is gone through once more, for `parWalk_done_hit`, which arm 12 of `parWalk_sound` needs). -/

/-- a trace: only calls are logged, the error accounts for the faults hit, and where there is an
    error the engine fails, as `fails` says -/
structure Sound (log : CallLog) (hit : List Fault) (fe : Option ErrChain) (fails : Prop) : Prop where
  uses : log.all isUse = true
  accounted : Accounted hit fe
  fails : fe.isSome = true → fails

theorem Sound.step {log : CallLog} {hit : List Fault} {fe : Option ErrChain} {fails : Prop} {e : List Ev}
    {hs : List Fault} (s : Sound log hit fe fails) (he : e.all isUse = true)
    (hb : hs.filter nonBenign = []) : Sound (e ++ log) (hs ++ hit) fe fails :=
  ⟨by simp [he, s.uses], accounted_append hb s.accounted, s.fails⟩

theorem Sound.fault {log : CallLog} {hit : List Fault} {fe : Option ErrChain} {fails' fails : Prop}
    {e : List Ev} {hs : List Fault} {c : ErrChain} {cz : Cause} (s : Sound log hit fe fails')
    (he : e.all isUse = true) (hr : ∃ f, hs = [f] ∧ nonBenign f = true ∧ causeOf f = cz)
    (hc : Link.cause cz ∈ c) (hf : fails) : Sound (e ++ log) (hs ++ hit) (some c) fails :=
  ⟨by simp [he, s.uses], accounted_of_recorded hr (List.subset_append_left _ _) hc, fun _ => hf⟩

def recvBad (min max : Nat) (outs : List ROut) : Bool := outs.any (outErr min max)

theorem recvLoop_bad {min max : Nat} (outs : List ROut) (s : Slots) (h : recvBad min max outs = true) :
    ∃ e, recvLoop min max s outs = .error e := by
  fun_induction recvLoop min max s outs with
  | case1 => cases h
  | case2 _ _ ih => exact ih h
  | case5 _ _ _ hv ih => exact ih (by simpa [recvBad, outErr, hv] using h)
  | _ => exact ⟨_, rfl⟩

abbrev ESound (min max : Nat) (t : ETr) : Prop :=
  Sound t.log t.hit t.firstErr (recvBad min max t.outs = true ∨ t.sendErr = true)

/-! The arms of `parWalk`, as `fun_induction` numbers them: the schedule ends (1); `send` is dropped (2),
passes (3), fails (4); `rbegin` is dropped (5), its `SetReadDeadline` fails (6), else its `Read`
passes, times out, fails, returns nothing (7-10); `rend` is dropped (11), ends the receiver (12), goes on (13).
Each arm hands over the state and the rest of the schedule (11-13: with the outcome between them), the test
it passed, the model's `let`s, the equations of the effects, and last the hypothesis for the rest
(`case caseN … =>` names the last of them). -/

theorem parWalk_done_hit (plan : FaultPlan) (min max : Nat) (s : List Step) (st : PSt)
    (hs : st.sDone = true) (hr : st.rDone = true) : (parWalk plan min max st s).hit = [] := by
  fun_induction parWalk plan min max st s
  case case1 => rfl
  case case2 ih | case5 ih | case11 ih => exact ih hs hr
  case case12 ih => exact ih rfl rfl
  case case13 ih => exact ih (by simp [hs]) hr
  -- a sender that is done sends nothing (3, 4), a receiver that is done begins no read (6-10)
  all_goals simp_all

theorem parWalk_sound (plan : FaultPlan) (min max : Nat) (s : List Step) (st : PSt) :
    ESound min max (parWalk plan min max st s) := by
  fun_induction parWalk plan min max st s
  case case1 => exact ⟨rfl, accounted_nil _, nofun⟩
  case case2 ih | case5 ih | case11 ih => exact ih
  case case3 ih | case7 ih => exact ih.step rfl rfl
  case case4 hne ih =>
    exact ih.fault rfl (hitOf_spec (eff_fail (by decide) hne)) (by simp [sendChain]) (.inr rfl)
  case case6 he _ _ ih => exact ih.fault rfl (hitOf_spec he) (by simp [deadlineChain]) (.inl rfl)
  case case8 he _ _ ih => exact ih.step rfl (hitOf_spec he)
  case case9 he _ _ ih => exact ih.fault rfl (hitOf_spec he) (by simp [readInjChain]) (.inl rfl)
  case case10 he _ _ ih => exact ih.fault rfl (hitOf_spec he) (by simp [readZeroChain]) (.inl rfl)
  case case12 ho _ ih =>
    -- a failure of the environment's making: no fault is hit here or later
    exact ⟨ih.uses, accounted_of_benign (by rw [parWalk_done_hit plan min max _ _ rfl rfl]; rfl) _,
      fun _ => .inl (by simp [recvBad, ho])⟩
  case case13 ho _ ih =>
    exact ⟨ih.uses, ih.accounted, fun h => (ih.fails h).imp_left fun hb => by simpa [recvBad, ho] using hb⟩

/-- a window: sound, and one that neither failed nor saw the destination hands over to the next -/
abbrev WSound (min max : Nat) (t : WTr) : Prop :=
  Sound t.log t.hit t.err (∀ s rest, ∃ e, serialLoop min max s (t.outs :: rest) = .error e) ∧
  (t.err = none → t.stop = false →
    ∀ s rest, ∃ s', serialLoop min max s (t.outs :: rest) = serialLoop min max s' rest)

theorem winWalk_sound (plan : FaultPlan) (min max : Nat) (w : List ROut) : ∀ (c : Cnt),
    WSound min max (winWalk plan min max c w) := by
  induction w with
  | nil => intro c; exact ⟨⟨rfl, accounted_nil _, nofun⟩, fun _ _ s _ => ⟨s, rfl⟩⟩
  | cons o rest ih =>
    intro c
    simp only [winWalk]
    split
    next hd =>
      -- `SetReadDeadline` fails
      exact ⟨⟨rfl, accounted_of_recorded (hitOf_spec hd) (List.Subset.refl _) (by simp [deadlineChain]),
        fun _ _ _ => ⟨_, rfl⟩⟩, nofun⟩
    next =>
      -- else by what the fault plan does to the `Read`, and where it passes by the natural outcome `o`
      cases hr : eff plan .read c.nr with
      | fail =>
        exact ⟨⟨rfl, accounted_of_recorded (hitOf_spec hr) (List.Subset.refl _) (by simp [readInjChain]),
          fun _ _ _ => ⟨_, rfl⟩⟩, nofun⟩
      | zero =>
        exact ⟨⟨rfl, accounted_of_recorded (hitOf_spec hr) (List.Subset.refl _) (by simp [readZeroChain]),
          fun _ _ _ => ⟨_, rfl⟩⟩, nofun⟩
      | timeout => exact ⟨(ih _).1.step rfl (hitOf_spec hr), (ih _).2⟩
      | pass =>
        rw [show hitOf plan .read c.nr = [] from hitOf_spec hr]
        cases o with
        | retry => exact ⟨(ih _).1.step rfl rfl, (ih _).2⟩
        | fatal | nilProbe => exact ⟨⟨rfl, accounted_nil _, fun _ _ _ => ⟨_, rfl⟩⟩, nofun⟩
        | accept q =>
          by_cases hv : validProbe min max q = true
          · rw [if_neg (by simp [outErr, hv])]
            exact ⟨⟨rfl, accounted_nil _, nofun⟩, fun _ hs s r =>
              ⟨serialWrite s q, by simp [serialLoop, serialWindow, hv, show q.dest = false from hs]⟩⟩
          · rw [if_pos (by simp [outErr, hv])]
            exact ⟨⟨rfl, accounted_nil _, fun _ s r => by simp [serialLoop, serialWindow, hv]⟩, nofun⟩

abbrev SSound (min max : Nat) (t : STr) : Prop :=
  Sound t.log t.hit t.firstErr
    ((∀ s, ∃ e, serialLoop min max s t.windows = .error e) ∨ t.sendErr = true)

theorem serWalk_sound (plan : FaultPlan) (min max : Nat) (ws : List (List ROut)) : ∀ (c : Cnt) (sent : Nat),
    SSound min max (serWalk plan min max c sent ws) := by
  induction ws with
  | nil => intro c sent; exact ⟨rfl, accounted_nil _, nofun⟩
  | cons w rest ih =>
    intro c sent
    simp only [serWalk]
    split
    next => exact ⟨rfl, accounted_nil _, nofun⟩   -- every probe is sent
    next =>
      split
      next =>
        -- the write passes: by how the window ends
        obtain ⟨hw, hcont⟩ := winWalk_sound plan min max w { c with nw := c.nw + 1 }
        cases he : (winWalk plan min max { c with nw := c.nw + 1 } w).err with
        | some e =>
          rw [he] at hw
          exact ⟨hw.uses, hw.accounted, fun _ => .inl fun s => hw.fails rfl s []⟩
        | none =>
          rw [he] at hw
          by_cases hst : (winWalk plan min max { c with nw := c.nw + 1 } w).stop = true
          · rw [if_pos hst]
            exact ⟨hw.uses, hw.accounted, nofun⟩
          · rw [if_neg hst]
            refine ⟨by simp [isUse, hw.uses, (ih _ _).uses],
              accounted_append (accounted_none hw.accounted) (ih _ _).accounted,
              fun h => ((ih _ _).fails h).imp_left fun h2 s => ?_⟩
            obtain ⟨s', hs'⟩ := hcont he (by simpa using hst) s
              (serWalk plan min max (winWalk plan min max { c with nw := c.nw + 1 } w).cnt (sent + 1) rest).windows
            rw [hs']
            exact h2 s'
      next hne =>
        -- the write fails
        exact ⟨rfl, accounted_of_recorded (hitOf_spec (eff_fail (by decide) hne)) (List.Subset.refl _)
          (by simp [sendChain]), fun _ => .inr rfl⟩

theorem parallelRun_fails {min max : Nat} {outs : List ROut} {se ec : Bool}
    (h : recvBad min max outs = true ∨ se = true ∨ ec = true) :
    ∃ e, parallelRun min max true outs se ec = .error e := by
  cases hr : parallelRun min max true outs se ec with
  | error e => exact ⟨e, rfl⟩
  | ok r =>
    obtain ⟨-, hse, hec, s, hs, -⟩ := parallelRun_ok_iff.mp hr
    rcases h with h | h | h
    · obtain ⟨e, he⟩ := recvLoop_bad outs emptySlots h
      cases he.symm.trans hs
    · cases hse.symm.trans h
    · cases hec.symm.trans h

theorem serialRun_err {min max : Nat} {ws : List (List ROut)} {se : Bool}
    (h : (∀ s, ∃ e, serialLoop min max s ws = .error e) ∨ se = true) :
    ∃ e, serialRun min max ws se false = .error e := by
  cases hr : serialRun min max ws se false with
  | error e => exact ⟨e, rfl⟩
  | ok r =>
    obtain ⟨-, hse, -, s, hs, -⟩ := serialRun_ok_iff.mp hr
    rcases h with h | h
    · obtain ⟨e, he⟩ := h emptySlots
      cases he.symm.trans hs
    · cases hse.symm.trans h

theorem atomic_of_accounted {r : Except ErrChain Run} {log : CallLog} {hit : List Fault}
    {fe : Option ErrChain} (hg : Accounted hit fe) (hr : ∀ c, fe = some c → ∃ c', r = .error c' ∧ c ⊆ c') :
    atomic ⟨r, log, hit⟩ = true := by
  by_cases hne : hit.filter nonBenign = []
  · unfold atomic fatalHits
    simp only [hne]
    split <;> rfl
  · obtain ⟨c, hc, f, hf, hm⟩ := hg hne
    obtain ⟨c', rfl, hs⟩ := hr c hc
    simp only [atomic, Bool.or_eq_true, List.any_eq_true]
    exact .inr ⟨f, hf, by simpa using hs hm⟩

/-- The two ways an entry point returns: with an error that accounts for the faults hit, or with
    what `conclude` makes of an engine run `r` that failed whenever an error `fe` was recorded or
    the caller had `cancelled`.  Either way the log is `pre`, calls `mid`, `post` for a frame that
    passes the check. -/
inductive Exit (cancelled once : Bool) : Obs → Prop
  | error {c : ErrChain} {hit : List Fault} {log : CallLog} (pre mid post : CallLog)
      (hg : Accounted hit (some c)) (hm : mid.all isUse = true) (hf : framed once pre post = true)
      (hl : log = pre ++ mid ++ post) : Exit cancelled once ⟨.error c, log, hit⟩
  | run {min : Nat} {ew hw : ErrChain} {r : RunRes} {fe : Option ErrChain} {hit : List Fault}
      {log : CallLog} (pre mid post : CallLog) (hg : Accounted hit fe)
      (hr : fe.isSome = true → ∃ e, r = .error e) (hc : cancelled = true → ∃ e, r = .error e)
      (hm : mid.all isUse = true) (hf : framed once pre post = true)
      (hl : log = pre ++ mid ++ post) : Exit cancelled once ⟨conclude min ew hw r fe, log, hit⟩

namespace Exit
variable {cn once : Bool} {o : Obs}

theorem ite {c : Prop} [Decidable c] {a b : Obs}
    (ha : c → Exit cn once a) (hb : ¬c → Exit cn once b) : Exit cn once (if c then a else b) := by
  split
  · exact ha ‹_›
  · exact hb ‹_›

/-- a condition of the environment that ends the run with an error, no call made -/
theorem check {b : Prop} [Decidable b] {c : ErrChain} {log : CallLog} {rest : Obs} (pre mid post : CallLog)
    (hm : mid.all isUse = true) (hf : framed once pre post = true) (hl : log = pre ++ mid ++ post)
    (hr : Exit cn once rest) : Exit cn once (if b then ⟨.error c, log, []⟩ else rest) :=
  .ite (fun _ => .error pre mid post (accounted_nil _) hm hf hl) fun _ => hr

/-- a call that, when a fault makes it fail, ends the run with its error in the chain -/
theorem stage {plan : FaultPlan} {op : FOp} {k : Nat} {c : ErrChain} {log : CallLog} {rest : Obs}
    (pre mid post : CallLog) (hop : op ≠ .read) (hc : Link.cause (.injected op k) ∈ c)
    (hm : mid.all isUse = true) (hf : framed once pre post = true) (hl : log = pre ++ mid ++ post)
    (hr : Exit cn once rest) :
    Exit cn once (if eff plan op k ≠ .pass then ⟨.error c, log, hitOf plan op k⟩ else rest) :=
  .ite (fun h => .error pre mid post
    (accounted_of_recorded (hitOf_spec (eff_fail hop h)) (List.Subset.refl _) hc) hm hf hl) fun _ => hr

theorem atomic : Exit cn once o → atomic o = true
  | .error (hg := hg) .. => atomic_of_accounted hg fun _ h => ⟨_, rfl, by cases h; exact List.Subset.refl _⟩
  | .run (hg := hg) (hr := hr) .. => atomic_of_accounted hg fun c h => by
    obtain ⟨e, rfl⟩ := hr (by rw [h]; rfl)
    subst h
    exact ⟨_, rfl, List.subset_append_right _ _⟩

theorem cancelled : Exit true once o → ∃ c, o.res = .error c
  | .error .. => ⟨_, rfl⟩
  | .run (hc := hc) .. => by
    obtain ⟨e, rfl⟩ := hc rfl
    exact ⟨_, rfl⟩

theorem closeOnce : Exit cn true o → closeOnce o.log = true
  | .error (hm := hm) (hf := hf) (hl := hl) .. | .run (hm := hm) (hf := hf) (hl := hl) .. => by
    rw [hl, closeOnce_insert hm]
    exact (framed_iff.1 hf).1 rfl

theorem noUseAfterClose : Exit cn once o → noUseAfterClose o.log = true
  | .error (hm := hm) (hf := hf) (hl := hl) .. | .run (hm := hm) (hf := hf) (hl := hl) .. => by
    obtain ⟨-, hn, hs, hk⟩ := framed_iff.1 hf
    rw [hl, nuac_insert hm _ hs hk]
    exact hn

end Exit

theorem exit_parallel {cn once ec : Bool} {min max : Nat} {t : ETr} {ew hw : ErrChain} {log : CallLog}
    (ht : ESound min max t) (pre mid post : CallLog) (hc : cn = true → ec = true)
    (hm : mid.all isUse = true) (hf : framed once pre post = true)
    (hl : log = pre ++ mid ++ t.log ++ post) :
    Exit cn once ⟨conclude min ew hw (parallelRun min max true t.outs t.sendErr ec) t.firstErr, log, t.hit⟩ :=
  .run pre (mid ++ t.log) post ht.accounted (fun h => parallelRun_fails ((ht.fails h).imp_right .inl))
    (fun h => parallelRun_fails (.inr (.inr (hc h)))) (by simp [hm, ht.uses]) hf
    (by rw [hl, List.append_assoc pre])

theorem exit_serial {once : Bool} {min max : Nat} {t : STr} {ew hw : ErrChain} {log : CallLog}
    (ht : SSound min max t) (pre mid post : CallLog) (hm : mid.all isUse = true)
    (hf : framed once pre post = true) (hl : log = pre ++ mid ++ t.log ++ post) :
    Exit false once ⟨conclude min ew hw (serialRun min max t.windows t.sendErr false) t.firstErr, log, t.hit⟩ :=
  .run pre (mid ++ t.log) post ht.accounted (fun h => serialRun_err (ht.fails h)) nofun
    (by simp [hm, ht.uses]) hf (by rw [hl, List.append_assoc pre])

/-! ### the four entry points

Each is a cascade of checks and stages that ends in an engine run.  `.check` / `.stage` take the
frame `pre`, `mid`, `post` of the return at hand; the three `rfl`s say that `mid` holds calls only,
that the frame passes `framed` (evaluated: the lists are concrete) and that the log is
`pre ++ mid ++ post`. -/

theorem icmp_exit (cfg : Cfg) (plan : FaultPlan) (sched : List Step) :
    Exit cfg.cancelled true (icmp cfg plan sched) := by
  unfold icmp
  refine .check [] [] [] rfl rfl rfl ?_
  refine .stage [] [] [] (by decide) (by simp) rfl rfl rfl ?_
  refine .stage [.open .localConn, .close .localConn] [] [] (by decide) (by simp) rfl rfl rfl ?_
  refine .stage [.open .localConn, .close .localConn, .open .source, .open .sink] [.filter]
    [.close .source, .close .sink] (by decide) (by simp) rfl rfl rfl ?_
  exact exit_parallel (parWalk_sound ..) [.open .localConn, .close .localConn, .open .source, .open .sink]
    [.filter] [.close .source, .close .sink] id rfl rfl rfl

/-- with `MustClosePort` the local socket is closed twice: every frame keeps the discipline but for
    the exactly-once count -/
theorem udp_exit (cfg : Cfg) (plan : FaultPlan) (sched : List Step) :
    Exit false (!cfg.mustClosePort) (udp cfg plan sched) := by
  unfold udp
  refine .check [] [] [] rfl (framed_mono rfl) rfl ?_
  refine .stage [] [] [] (by decide) (by simp) rfl (framed_mono rfl) rfl ?_
  refine .stage [.open .localConn] [] [.close .localConn] (by decide) (by simp) rfl (framed_mono rfl) rfl ?_
  -- from here on the frame holds `mcClose cfg.mustClosePort _`: `pre` and `post` are the model's own terms
  refine .stage _ [.filter] _ (by decide) (by simp) rfl (by cases cfg.mustClosePort <;> rfl) rfl ?_
  exact exit_parallel (parWalk_sound ..) _ [.filter] _ nofun rfl (by cases cfg.mustClosePort <;> rfl) rfl

/-- with `MustClosePort` the reserved listener is closed twice -/
theorem tcp_exit (cfg : Cfg) (plan : FaultPlan) (ws : List (List ROut)) :
    Exit false (!cfg.mustClosePort) (tcp cfg plan ws) := by
  have listening : framed (!cfg.mustClosePort) [.open .localConn, .close .localConn, .open .listener]
      [.close .listener] = true := framed_mono rfl
  unfold tcp
  refine .stage [] [] [] (by decide) (by simp) rfl (framed_mono rfl) rfl ?_
  refine .stage [.open .localConn, .close .localConn] [] [] (by decide) (by simp) rfl (framed_mono rfl) rfl ?_
  refine .check _ [] _ rfl listening rfl ?_
  refine .stage _ [] _ (by decide) (by simp) rfl listening rfl ?_
  refine .stage _ [.filter] _ (by decide) (by simp) rfl (by cases cfg.mustClosePort <;> rfl) rfl ?_
  exact exit_serial (serWalk_sound ..) _ [.filter] _ rfl (by cases cfg.mustClosePort <;> rfl) rfl

theorem hsLoop_sound (plan : FaultPlan) (hs : List HOut) : ∀ (nr : Nat),
    Sound (hsLoop plan nr hs).log (hsLoop plan nr hs).hit (hsLoop plan nr hs).err True ∧
      ((hsLoop plan nr hs).err = none → (hsLoop plan nr hs).hit = []) := by
  induction hs with
  | nil => intro nr; exact ⟨⟨rfl, accounted_nil _, fun _ => trivial⟩, nofun⟩
  | cons h rest ih =>
    intro nr
    unfold hsLoop
    -- by what the fault plan does to the `Read`, and where it passes by what the packet is
    cases he : eff plan .read nr with
    | fail | zero =>
      exact ⟨⟨rfl, accounted_of_recorded (hitOf_spec he) (List.Subset.refl _) (by simp), fun _ => trivial⟩, nofun⟩
    | timeout => exact ⟨⟨rfl, accounted_of_benign (hitOf_spec he) _, fun _ => trivial⟩, nofun⟩
    | pass =>
      rw [show hitOf plan .read nr = [] from hitOf_spec he]
      cases h with
      | ignore => exact ⟨(ih _).1.step (e := [.read]) rfl rfl, (ih _).2⟩
      | done => exact ⟨⟨rfl, accounted_nil _, fun _ => trivial⟩, fun _ => rfl⟩
      | _ => exact ⟨⟨rfl, accounted_nil _, fun _ => trivial⟩, nofun⟩

theorem sackTail_exit (cfg : Cfg) (plan : FaultPlan) (env : SackEnv) (pre mid : CallLog) (nr : Nat)
    (hm : mid.all isUse = true) (hf : framed true pre sackClose2 = true) :
    Exit cfg.cancelled true (sackTail cfg plan env (pre ++ mid) [] nr) := by
  unfold sackTail
  refine .stage pre (mid ++ [.filter]) sackClose2 (by decide) (by simp) (by simp [hm, isUse]) hf
    (List.append_assoc pre .. ▸ rfl) ?_
  exact exit_parallel (parWalk_sound ..) pre (mid ++ [.filter]) sackClose2 id (by simp [hm, isUse]) hf
    (by rw [List.append_assoc pre])

theorem sackConn_exit (cfg : Cfg) (plan : FaultPlan) (env : SackEnv) (pre : CallLog)
    (hf : framed true pre sackClose2 = true) : Exit cfg.cancelled true (sackConn cfg plan env pre) := by
  unfold sackConn
  refine .check pre [] sackClose2 rfl hf (by simp) ?_
  refine .stage pre [.deadline] sackClose2 (by decide) (by simp) rfl hf rfl ?_
  obtain ⟨hg, hk⟩ := hsLoop_sound plan env.hs 0
  have hu : (.deadline :: (hsLoop plan 0 env.hs).log).all isUse = true := hg.uses
  dsimp only
  cases he : (hsLoop plan 0 env.hs).err with
  | some e =>
    rw [he] at hg
    exact .error pre _ sackClose2 (hg.accounted.mono (List.subset_cons_self _ _)) hu hf rfl
  | none =>
    rw [hk he]
    exact sackTail_exit cfg plan env pre _ _ hu hf

theorem sack_exit (cfg : Cfg) (plan : FaultPlan) (env : SackEnv) :
    Exit cfg.cancelled true (sack cfg plan env) := by
  -- one frame for the four returns from the filter to the dial: filter failure and `MustClosePort` close
  -- source and sink by hand, the two dial failures through the deferred `driver.Close()`; same log
  have filtered : framed true [.open .localConn, .close .localConn, .open .source, .open .sink]
      [.close .source, .close .sink] = true := rfl
  unfold sack
  refine .check [] [] [] rfl rfl rfl ?_
  refine .stage [] [] [] (by decide) (by simp) rfl rfl rfl ?_
  refine .stage [.open .localConn, .close .localConn] [] [] (by decide) (by simp) rfl rfl rfl ?_
  refine .stage _ [.filter] _ (by decide) (by simp) rfl filtered rfl ?_
  refine .check _ [.filter] _ rfl filtered rfl ?_
  refine .stage _ [.filter] _ (by decide) (by simp) rfl filtered rfl ?_
  refine .check _ [.filter] _ rfl filtered rfl ?_
  exact sackConn_exit cfg plan env _ rfl

end TRV.Proofs.Wrapper
