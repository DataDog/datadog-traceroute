import TRV.Spec.Timed
import TRV.Proofs.Engine
/-! Lemmas for C05 / C08 about the timed engine models: clock bounds for each loop of `Model/Timed`
by the loop's own induction principle, the two engines as a whole (`parallelT_finish`, `*_nofail`),
the clock invariant under a recorded send, and which replies the serial engine keeps. -/
namespace TRV.Proofs.Timed
open TRV TRV.Engine TRV.Timed TRV.Spec TRV.Spec.Timed

theorem count_pos {c : Cfg} (h : validParams c.min c.max = true) : 1 ≤ c.count := by
  unfold Cfg.count
  rw [if_pos (validParams_iff.1 h).1]; omega

theorem foldl_max_le (B : Nat) : ∀ (l : List Nat) (acc : Nat), acc ≤ B → (∀ x ∈ l, x ≤ B) →
    l.foldl max acc ≤ B := by
  intro l
  induction l with
  | nil => intro acc h _; simpa using h
  | cons x l ih =>
    intro acc h hl
    rw [List.forall_mem_cons] at hl
    exact ih _ (Nat.max_le.2 ⟨h, hl.1⟩) hl.2

theorem idleEnd_le (poll stop now : Nat) : idleEnd poll stop now ≤ max now (stop + poll) := by
  unfold idleEnd
  split
  · exact Nat.le_max_left ..
  · have := Nat.div_mul_le_self (stop - now + poll - 1) poll
    exact Nat.le_trans (by omega) (Nat.le_max_right ..)

theorem idleEnd_ge (poll stop now : Nat) : now ≤ idleEnd poll stop now := by
  unfold idleEnd
  split
  · exact Nat.le_refl _
  · exact Nat.le_add_right ..

theorem optMin_le_left (a : Nat) (o : Option Nat) : optMin a o ≤ a := by
  cases o
  · exact Nat.le_refl a
  · exact Nat.min_le_left ..

theorem optMin_le_some (a b : Nat) : optMin a (some b) ≤ b := Nat.min_le_right ..

theorem isCancelled_some {cc now : Nat} : isCancelled (some cc) now = true ↔ cc ≤ now := by
  simp [isCancelled]

theorem not_isCancelled_some {cc now : Nat} : isCancelled (some cc) now = false ↔ now < cc := by
  simp [isCancelled]

theorem le_optMin {cancel : Option Nat} {now : Nat} (h : isCancelled cancel now = false) (a : Nat) :
    now ≤ optMin (now + a) cancel := by
  cases cancel with
  | none => exact Nat.le_add_right ..
  | some cc => exact Nat.le_min.2 ⟨Nat.le_add_right .., Nat.le_of_lt (not_isCancelled_some.1 h)⟩

/-- one step of a loop that is left at its first test at or after `stop`: a step begun at `now` is
    over by `B`, and so is whatever is bounded by `max _ B` from the end of that step on -/
theorem le_max_of_step {now d B r : Nat} (hB : now + d ≤ B) (hr : r ≤ max (now + d) B) :
    r ≤ max now B :=
  Nat.le_trans hr (Nat.max_le.2 ⟨Nat.le_trans hB (Nat.le_max_right ..), Nat.le_max_right ..⟩)

theorem noFail_mono {c : Cfg} {s s' : List RCall} {sfail : Nat → Bool} (h : NoFail c s sfail)
    (hs : ∀ e ∈ s', e ∈ s) : NoFail c s' sfail :=
  ⟨fun e he => h.1 e (hs e he), h.2⟩

/-! ## serial window

Each fact follows the recursion of `serWindow` (`fun_induction`).  Its cases, with what each hands over:
1 `now`: the script is empty; 2 `now e rest hge`: the deadline test ends the window; then a call `e` is made
(`hlt : ¬ now ≥ dl`, `now' := now + e.dur`) and returns 3 `now e rest hlt now' ho w ih`: a retryable outcome
(the one recursive case, `w` the rest of the window); 4, 5 `now e rest hlt now' ho`: a fatal error, a nil
probe; 6, 7 `now e rest hlt now' p ho hv`: a reply `p` within, outside the TTL range.
(`| caseN …` names them from the first, `case caseN … =>` from the last.) -/

theorem serWindow_now_le {c : Cfg} (dl : Nat) {s : List RCall} (now : Nat)
    (h : ∀ e ∈ s, e.dur ≤ c.poll) : (serWindow c dl now s).now ≤ max now (dl + c.poll) := by
  fun_induction serWindow c dl now s
  case case1 => exact idleEnd_le ..
  case case2 => exact Nat.le_max_left ..
  case case3 ih =>
    rw [List.forall_mem_cons] at h
    exact le_max_of_step (by have := h.1; omega) (ih h.2)
  case case4 | case5 | case6 | case7 =>
    exact le_max_of_step (by have := h _ List.mem_cons_self; omega) (Nat.le_max_left ..)

theorem serWindow_now_ge (c : Cfg) (dl : Nat) (s : List RCall) (now : Nat) :
    now ≤ (serWindow c dl now s).now := by
  fun_induction serWindow c dl now s
  case case1 => exact idleEnd_ge ..
  case case2 => exact Nat.le_refl _
  case case3 ih => exact Nat.le_trans (Nat.le_add_right ..) ih
  all_goals exact Nat.le_add_right ..

theorem serWindow_rest_mem {c : Cfg} {dl : Nat} {s : List RCall} {now : Nat} :
    ∀ e ∈ (serWindow c dl now s).rest, e ∈ s := by
  fun_induction serWindow c dl now s
  case case1 | case2 => exact fun _ h => h
  case case3 ih => exact fun e h => List.mem_cons_of_mem _ (ih e h)
  all_goals exact fun _ h => List.mem_cons_of_mem _ h

theorem serWindow_used (c : Cfg) (dl : Nat) (s : List RCall) (now : Nat) :
    serialWindow c.min c.max (serWindow c dl now s).used =
      match (serWindow c dl now s).res with
      | .none => .ok none
      | .got p => .ok (some p)
      | .err e => .error e := by
  fun_induction serWindow c dl now s
  case case3 ih => exact ih
  case case6 hv | case7 hv => simp [serialWindow, hv]
  all_goals rfl

theorem serWindow_noerr {c : Cfg} {sfail : Nat → Bool} (dl : Nat) {s : List RCall} (now : Nat)
    (h : NoFail c s sfail) : ∀ e, (serWindow c dl now s).res ≠ .err e := by
  fun_induction serWindow c dl now s
  case case3 ih => exact ih (noFail_mono h fun _ => List.mem_cons_of_mem _)
  case case4 ho | case5 ho => simpa [ho] using h.1 _ List.mem_cons_self
  case case7 ho hv => simpa [ho, hv] using h.1 _ List.mem_cons_self
  all_goals simp

/-! ## serial loop

The cases of `serLoop` (`fun_induction`), with what each hands over: 1 `i now s`: no iteration left;
2 `n i now s hc`: cancelled at the loop test; 3 `n i now s hc now1 hf`: `SendProbe` failed; then, with
`dl` the window's deadline, `now1 := now + sd i` and `w` the window, 4 `n i now s hc dl now1 hf w e he`:
it ended in an error; 5 `… w p hp hd`: in a destination reply; 6 `… w p hp hd r ih`: in another reply;
7 `… w hp r ih`: without a reply (6 and 7 are the recursive ones, `r` the rest of the loop). -/

theorem serWindow_after_send {c : Cfg} {σ d dl now : Nat} {s : List RCall} (hd : d ≤ σ)
    (hdl : now ≤ dl) (hs : ∀ e ∈ s, e.dur ≤ c.poll) :
    (serWindow c dl (now + d) s).now ≤ dl + c.poll + σ :=
  Nat.le_trans (serWindow_now_le dl (now + d) hs)
    (Nat.max_le.2 ⟨Nat.add_le_add (Nat.le_trans hdl (Nat.le_add_right ..)) hd, Nat.le_add_right ..⟩)

/-- Where `serLoop` can end, as an induction rule for time bounds.  The loop ends at once (`stop`), or
    it begins an iteration at an instant `now` at which the caller has not cancelled.  That iteration
    is over — `SendProbe` failed, or the window ended — at some `t` no later than one poll and one
    `SendProbe` after the window's deadline; the loop returns at `t`, or goes on with one iteration
    less from the later of `t` and `now + delay`.  `P n now f` reads "begun at `now` with `n` iterations
    left, the loop is over at `f`"; a bound `f ≤ max now D` is best given as `f ≤ now ∨ f ≤ D`, which splits
    over the two continuations (`serLoop_cancel_le`). -/
theorem serLoop_finish_rule {c : Cfg} {cancel : Option Nat} {sd : Nat → Nat} {sfail : Nat → Bool}
    {σ : Nat} (hsd : ∀ i, sd i ≤ σ) {P : Nat → Nat → Nat → Prop}
    (stop : ∀ n now, P n now now)
    (iter : ∀ n now t, isCancelled cancel now = false →
      t ≤ optMin (now + c.timeout) cancel + c.poll + σ →
      P (n + 1) now t ∧ ∀ f, P n t f ∨ P n (now + c.delay) f → P (n + 1) now f)
    (n i now : Nat) (s : List RCall) (hs : ∀ e ∈ s, e.dur ≤ c.poll) :
    P n now (serLoop c cancel sd sfail n i now s).finish := by
  fun_induction serLoop c cancel sd sfail n i now s with
  | case1 | case2 => exact stop ..
  | case3 n i now _ hc =>
    rw [Bool.not_eq_true] at hc
    have := le_optMin hc c.timeout
    have := hsd i
    exact (iter n now (now + sd i) hc (by omega)).1
  | case4 n i now _ hc | case5 n i now _ hc =>
    rw [Bool.not_eq_true] at hc
    exact (iter n now _ hc (serWindow_after_send (hsd i) (le_optMin hc c.timeout) hs)).1
  | case6 n i now s hc _ _ _ w _ _ _ _ ih | case7 n i now s hc _ _ _ w _ _ ih =>
    rw [Bool.not_eq_true] at hc
    replace ih := ih fun e he => hs e (serWindow_rest_mem e he)
    refine (iter n now _ hc (serWindow_after_send (hsd i) (le_optMin hc c.timeout) hs)).2 _ ?_
    rcases Nat.le_total w.now (now + c.delay) with h | h
    · exact .inr (Nat.max_eq_right h ▸ ih)
    · exact .inl (Nat.max_eq_left h ▸ ih)

/-- C08 serial invariant: with `n` iterations left at time `now`, the loop is over by
    `now + n · (max timeout delay + poll + σ)` -/
theorem serLoop_finish_le {c : Cfg} (cancel : Option Nat) {sd : Nat → Nat} (sfail : Nat → Bool)
    {σ : Nat} (hsd : ∀ i, sd i ≤ σ) : ∀ (n i now : Nat) {s : List RCall},
    (∀ e ∈ s, e.dur ≤ c.poll) →
    (serLoop c cancel sd sfail n i now s).finish ≤ now + n * (max c.timeout c.delay + c.poll + σ) := by
  have hT := Nat.le_max_left c.timeout c.delay
  have hD := Nat.le_max_right c.timeout c.delay
  generalize max c.timeout c.delay = m at *
  refine serLoop_finish_rule hsd (P := fun n now f => f ≤ now + n * (m + c.poll + σ))
    (fun _ _ => Nat.le_add_right ..) fun n now t _ ht => ?_
  have := optMin_le_left (now + c.timeout) cancel
  have := Nat.add_one_mul n (m + c.poll + σ)
  exact ⟨by omega, fun f (hf : f ≤ _ ∨ f ≤ _) => by omega⟩

/-- C08 serial cancellation invariant: once the caller has cancelled at `cc`, the loop is over by
    `cc + poll + delay + σ` (or at once if it is already later than that) -/
theorem serLoop_cancel_le {c : Cfg} (cc : Nat) {sd : Nat → Nat} (sfail : Nat → Bool)
    {σ : Nat} (hsd : ∀ i, sd i ≤ σ) : ∀ (n i now : Nat) {s : List RCall},
    (∀ e ∈ s, e.dur ≤ c.poll) →
    (serLoop c (some cc) sd sfail n i now s).finish ≤ max now (cc + c.poll + c.delay + σ) := by
  intro n i now s hs
  -- an iteration only begins before `cc`
  have h := serLoop_finish_rule (cancel := some cc) (sfail := sfail) hsd
    (P := fun _ now f => f ≤ now ∨ f ≤ cc + c.poll + c.delay + σ)
    (fun _ _ => .inl (Nat.le_refl _))
    (fun n now t hc ht => by
      have := optMin_le_some (now + c.timeout) cc
      have := not_isCancelled_some.1 hc
      exact ⟨by omega, fun f (hf : (f ≤ _ ∨ f ≤ _) ∨ (f ≤ _ ∨ f ≤ _)) => by omega⟩)
    n i now s hs
  omega

theorem serLoop_finish_ge (c : Cfg) (cancel : Option Nat) (sd : Nat → Nat) (sfail : Nat → Bool) :
    ∀ (n i now : Nat) (s : List RCall), now ≤ (serLoop c cancel sd sfail n i now s).finish := by
  intro n i now s
  fun_induction serLoop c cancel sd sfail n i now s
  case case1 | case2 => exact Nat.le_refl _
  case case3 => exact Nat.le_add_right ..
  case case4 | case5 => exact Nat.le_trans (Nat.le_add_right ..) (serWindow_now_ge ..)
  case case6 ih | case7 ih =>
    exact Nat.le_trans (Nat.le_trans (Nat.le_add_right _ c.delay) (Nat.le_max_right ..)) ih

theorem serLoop_nofail {c : Cfg} {sfail : Nat → Bool} (cancel : Option Nat) (sd : Nat → Nat)
    (n i now : Nat) {s : List RCall} (h : NoFail c s sfail) (sl : Slots) :
    (serLoop c cancel sd sfail n i now s).sendErr = false ∧
    ∃ sl', serialLoop c.min c.max sl (serLoop c cancel sd sfail n i now s).windows = .ok sl' := by
  fun_induction serLoop c cancel sd sfail n i now s generalizing sl
  case case1 | case2 => exact ⟨rfl, sl, rfl⟩
  case case3 hf => simp [h.2] at hf
  case case4 he => exact absurd he (serWindow_noerr _ _ h _)
  case case5 w p hp hd =>
    have hused : serialWindow c.min c.max w.used = _ := serWindow_used ..
    rw [hp] at hused
    exact ⟨rfl, serialWrite sl p, by simp [serialLoop, hused, hd]⟩
  case case6 w p hp hd _ ih =>
    have hused : serialWindow c.min c.max w.used = _ := serWindow_used ..
    rw [hp] at hused
    have ⟨h1, sl', h2⟩ := ih (noFail_mono h serWindow_rest_mem) (serialWrite sl p)
    exact ⟨h1, sl', by simpa [serialLoop, hused, hd] using h2⟩
  case case7 w hp _ ih =>
    have hused : serialWindow c.min c.max w.used = _ := serWindow_used ..
    rw [hp] at hused
    have ⟨h1, sl', h2⟩ := ih (noFail_mono h serWindow_rest_mem) sl
    exact ⟨h1, sl', by simpa [serialLoop, hused] using h2⟩

/-! ## parallel engine: receiver and sender

The cases of `recvT` are those of `serWindow`, except that a valid reply does not end the loop:
6 `now e rest hlt now' p ho hv r ih`.  Those of `sendT`: 1 `i now`: no probe left; 2 `n i now hge`:
`writerCtx` done; 3 `n i now hlt now1 hf`: `SendProbe` failed; 4 `n i now hlt now1 hf r ih`: sent, next probe. -/

theorem recvT_end_le {c : Cfg} (stop : Nat) {s : List RCall} (now : Nat)
    (h : ∀ e ∈ s, e.dur ≤ c.poll) : (recvT c stop now s).endAt ≤ max now (stop + c.poll) := by
  fun_induction recvT c stop now s
  case case1 => exact idleEnd_le ..
  case case2 => exact Nat.le_max_left ..
  case case3 ih | case6 ih =>
    rw [List.forall_mem_cons] at h
    exact le_max_of_step (by have := h.1; omega) (ih h.2)
  case case4 | case5 | case7 =>
    exact le_max_of_step (by have := h _ List.mem_cons_self; omega) (Nat.le_max_left ..)

theorem recvT_end_ge (c : Cfg) (stop : Nat) : ∀ (s : List RCall) (now : Nat),
    now ≤ (recvT c stop now s).endAt := by
  intro s now
  fun_induction recvT c stop now s
  case case1 => exact idleEnd_ge ..
  case case2 => exact Nat.le_refl _
  case case3 ih | case6 ih => exact Nat.le_trans (Nat.le_add_right ..) ih
  all_goals exact Nat.le_add_right ..

theorem recvT_nofail {c : Cfg} {sfail : Nat → Bool} (stop : Nat) {s : List RCall} (now : Nat)
    (h : NoFail c s sfail) (sl : Slots) :
    ∃ sl', recvLoop c.min c.max sl (recvT c stop now s).used = .ok sl' := by
  fun_induction recvT c stop now s generalizing sl
  case case1 | case2 => exact ⟨sl, rfl⟩
  case case3 ih => exact ih (noFail_mono h fun _ => List.mem_cons_of_mem _) sl
  case case4 ho | case5 ho => simpa [ho] using h.1 _ List.mem_cons_self
  case case6 p _ hv _ ih =>
    have ⟨sl', h'⟩ := ih (noFail_mono h fun _ => List.mem_cons_of_mem _) (writeProbe sl p)
    exact ⟨sl', by simpa [recvLoop, hv] using h'⟩
  case case7 ho hv => simpa [ho, hv] using h.1 _ List.mem_cons_self

theorem sendT_end_le (c : Cfg) (wstop : Nat) {sd : Nat → Nat} (sfail : Nat → Bool) {σ : Nat}
    (hsd : ∀ i, sd i ≤ σ) (n i now : Nat) :
    (sendT c wstop sd sfail n i now).endAt ≤ now + n * (c.delay + σ) := by
  fun_induction sendT c wstop sd sfail n i now with
  | case1 | case2 => exact Nat.le_add_right ..
  | case3 n i now =>
    have := hsd i
    have := Nat.succ_mul n (c.delay + σ)
    dsimp only
    omega
  | case4 n i now _ _ _ r ih =>
    have : r.endAt ≤ now + sd i + c.delay + n * (c.delay + σ) := ih
    have := hsd i
    have := Nat.succ_mul n (c.delay + σ)
    dsimp only
    omega

theorem sendT_end_stop (c : Cfg) (wstop : Nat) {sd : Nat → Nat} (sfail : Nat → Bool) {σ : Nat}
    (hsd : ∀ i, sd i ≤ σ) (n i now : Nat) :
    (sendT c wstop sd sfail n i now).endAt ≤ max now (wstop + σ + c.delay) := by
  fun_induction sendT c wstop sd sfail n i now with
  | case1 | case2 => exact Nat.le_max_left ..
  | case3 _ i now hlt =>
    exact le_max_of_step (by have := hsd i; omega) (Nat.le_max_left ..)
  | case4 _ i now hlt _ _ _ ih =>
    exact le_max_of_step (d := sd i + c.delay) (by have := hsd i; omega) (Nat.add_assoc .. ▸ ih)

theorem sendT_end_ge (c : Cfg) (wstop : Nat) (sd : Nat → Nat) (sfail : Nat → Bool) :
    ∀ (n i now : Nat), now ≤ (sendT c wstop sd sfail n i now).endAt := by
  intro n i now
  fun_induction sendT c wstop sd sfail n i now
  case case1 | case2 => exact Nat.le_refl _
  case case3 => exact Nat.le_add_right ..
  case case4 ih => exact Nat.le_trans (Nat.le_trans (Nat.le_add_right ..) (Nat.le_add_right ..)) ih

theorem sendT_nofail (c : Cfg) (wstop : Nat) (sd : Nat → Nat) {sfail : Nat → Bool}
    (hsf : ∀ i, sfail i = false) (n i now : Nat) : (sendT c wstop sd sfail n i now).failed = false := by
  fun_induction sendT c wstop sd sfail n i now
  case case1 | case2 => rfl
  case case3 hf => simp [hsf] at hf
  case case4 ih => exact ih

/-- `g.Wait()`: a parallel run ends when both goroutines have returned.  The receiver starts no later
    than the first `SendProbe` returns; each of the two contexts they test (`groupCtx`, `writerCtx`) is
    done no later than `timeoutCtx`. -/
theorem parallelT_finish {c : Cfg} (hv : validParams c.min c.max = true)
    (cancel : Option Nat) (sd : Nat → Nat) (sfail : Nat → Bool) (start : Nat) (script : List RCall) :
    ∃ r0 stop wstop, r0 ≤ start + sd c.min ∧
      stop ≤ optMin (start + c.timeout + c.count * c.delay) cancel ∧
      wstop ≤ optMin (start + c.timeout + c.count * c.delay) cancel ∧
      (parallelT c cancel sd sfail start script).finish =
        max (recvT c stop r0 script).endAt (sendT c wstop sd sfail c.count c.min start).endAt := by
  unfold parallelT
  rw [if_neg (by simp [hv])]
  extract_lets stop0 r0 r1 wstop s
  have hr0 : r0 ≤ start + sd c.min := by dsimp only [r0]; split <;> omega
  have hw : wstop ≤ stop0 := Nat.le_trans (optMin_le_left ..) (optMin_le_left ..)
  split
  · exact ⟨r0, min stop0 s.endAt, wstop, hr0, Nat.min_le_left .., hw, rfl⟩
  · exact ⟨r0, stop0, wstop, hr0, Nat.le_refl _, hw, rfl⟩

theorem parallelT_nofail {c : Cfg} {script : List RCall} {sfail : Nat → Bool}
    (hnf : NoFail c script sfail) (hv : validParams c.min c.max = true)
    (cancel : Option Nat) (sd : Nat → Nat) (start : Nat) :
    ∃ outs sl, recvLoop c.min c.max emptySlots outs = .ok sl ∧
      (parallelT c cancel sd sfail start script).result = parallelRun c.min c.max true outs false
        (isCancelled cancel (parallelT c cancel sd sfail start script).finish) := by
  unfold parallelT
  rw [if_neg (by simp [hv])]
  extract_lets stop0 r0 r1 wstop s
  have hsf : s.failed = false := sendT_nofail c wstop sd hnf.2 ..
  have ⟨sl, hsl⟩ := recvT_nofail stop0 r0 hnf emptySlots
  rw [if_neg (by simp [hsf])]
  exact ⟨r1.used, sl, hsl, rfl⟩

theorem serialT_nofail {c : Cfg} {script : List RCall} {sfail : Nat → Bool}
    (hnf : NoFail c script sfail) (hv : validParams c.min c.max = true)
    (cancel : Option Nat) (sd : Nat → Nat) (start : Nat) :
    ∃ ws sl, serialLoop c.min c.max emptySlots ws = .ok sl ∧
      (serialT c cancel sd sfail start script).result = serialRun c.min c.max ws false
        (isCancelled cancel (serialT c cancel sd sfail start script).finish) := by
  unfold serialT
  rw [if_neg (by simp [hv])]
  have ⟨hse, sl, hsl⟩ := serLoop_nofail cancel sd c.count c.min start hnf emptySlots
  exact ⟨_, sl, hsl, by dsimp only; rw [hse]⟩

theorem sentBefore_snoc {now now' : Nat} {sent : List Drv.Sent} {x : Drv.Sent} (hb : SentBefore now sent)
    (hx : x.time = now) (hle : now ≤ now') : SentBefore now' (sent ++ [x]) := by
  intro p hp
  rcases List.mem_append.1 hp with hp | hp
  · exact Nat.le_trans (hb p hp) hle
  · exact List.mem_singleton.1 hp ▸ hx ▸ hle

/-! ## the replies the serial engine keeps

About the untimed `serialLoop`, read off a successful run; here because `serialAccepted` and `Aligned`
are vocabulary of `Spec/Timed`.  (`serialLoop_windows` in `Proofs/Engine` goes the other way.) -/

/-- the serial engine's slots are the fold of `writeProbe` over the replies it accepted
    (`serialWrite` is `writeProbe`) -/
theorem serialLoop_foldl {min max : Nat} (ws : List (List ROut)) (s s' : Slots)
    (h : serialLoop min max s ws = .ok s') : s' = (serialAccepted min max ws).foldl writeProbe s := by
  fun_induction serialLoop min max s ws
  case case1 => exact (Except.ok.inj h).symm
  case case2 => nomatch h
  case case3 hw ih => simp only [serialAccepted, hw]; exact ih h
  case case4 hw _ hd => simp only [serialAccepted, hw, hd]; exact (Except.ok.inj h).symm
  case case5 hw _ hd ih => simp only [serialAccepted, hw, hd]; exact ih h

theorem serialLoop_merge {min max : Nat} {ws : List (List ROut)} {s : Slots}
    (h : serialLoop min max emptySlots ws = .ok s) : s = merge (serialAccepted min max ws) :=
  serialLoop_foldl ws emptySlots s h

theorem aligned_accepted {min max : Nat} (ws : List (List ROut)) : ∀ k, Aligned min max k ws →
    (serialAccepted min max ws).Pairwise (fun p q => p.ttl ≠ q.ttl) ∧
      ∀ q ∈ serialAccepted min max ws, k ≤ q.ttl := by
  fun_induction serialAccepted min max ws with
  | case1 | case5 => exact fun _ _ => ⟨.nil, fun _ h => nomatch h⟩
  | case2 _ _ p hw =>
    exact fun k ha => ⟨List.pairwise_singleton .., fun q hq =>
      List.mem_singleton.1 hq ▸ Nat.le_of_eq (ha.1 p hw).symm⟩
  | case3 _ _ p hw _ ih =>
    intro k ha
    have ⟨h1, h2⟩ := ih (k + 1) ha.2
    have hk : p.ttl = k := ha.1 p hw
    refine ⟨List.pairwise_cons.2 ⟨fun q hq => ?_, h1⟩, fun q hq => ?_⟩
    · have := h2 q hq; omega
    · rcases List.mem_cons.1 hq with rfl | hq
      · exact Nat.le_of_eq hk.symm
      · exact Nat.le_of_succ_le (h2 q hq)
  | case4 _ _ _ ih =>
    intro k ha
    have ⟨h1, h2⟩ := ih (k + 1) ha.2
    exact ⟨h1, fun q hq => Nat.le_of_succ_le (h2 q hq)⟩

end TRV.Proofs.Timed
