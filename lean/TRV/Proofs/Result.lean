import TRV.Proofs.NetIP
import TRV.Proofs.Stats
/-!
# The passes over the result document (C16 / C17)

`normalize`, `removePrivate` and `enrich` each satisfy
`runsHops (pass d).runs = (runsHops d.runs).map (·.map f)` for their `f`; what such a pass keeps is
proved from that equation alone.  Then `normalize` field by field, redaction, and the hop at a
position through the pipeline.
-/
namespace TRV.Proofs.Result
open TRV TRV.Result TRV.ResSpec

def runsHops (rs : List Run) : List (List Hop) := rs.map (·.hops)

theorem runs_length_of_map {rs rs' : List Run} {f : Hop → Hop}
    (hm : runsHops rs' = (runsHops rs).map (·.map f)) : rs'.length = rs.length := by
  simpa [runsHops] using congrArg List.length hm

theorem runs_eq_nil_of_map {rs rs' : List Run} {f : Hop → Hop}
    (hm : runsHops rs' = (runsHops rs).map (·.map f)) : rs' = [] ↔ rs = [] := by
  rw [← List.length_eq_zero_iff, runs_length_of_map hm, List.length_eq_zero_iff]

theorem hops_of_map {rs rs' : List Run} {f : Hop → Hop}
    (hm : runsHops rs' = (runsHops rs).map (·.map f)) {r' : Run} (hr' : r' ∈ rs') :
    ∃ r ∈ rs, r'.hops = r.hops.map f := by
  have h : r'.hops ∈ runsHops rs' := List.mem_map_of_mem hr'
  rw [hm] at h
  simp only [runsHops, List.mem_map] at h
  obtain ⟨_, ⟨r, hr, rfl⟩, e⟩ := h
  exact ⟨r, hr, e.symm⟩

theorem longestRun_eq (rs : List Run) : longestRun rs = ((runsHops rs).map List.length).foldr max 0 := by
  induction rs with
  | nil => rfl
  | cons r t ih => rw [longestRun, ih]; rfl

theorem longestRun_of_map {rs rs' : List Run} {f : Hop → Hop}
    (hm : runsHops rs' = (runsHops rs).map (·.map f)) : longestRun rs' = longestRun rs := by
  rw [longestRun_eq, longestRun_eq, hm, List.map_map]
  congr 2; funext hs; exact List.length_map f

theorem reachableIffAddr_of_map {d d' : Doc} {f : Hop → Hop}
    (hm : runsHops d'.runs = (runsHops d.runs).map (·.map f))
    (hf : ∀ r ∈ d.runs, ∀ h ∈ r.hops, ((f h).reachable = true ↔ HasAddr (f h))) : ReachableIffAddr d' := by
  intro r' hr' h' hh'
  obtain ⟨r, hr, e⟩ := hops_of_map hm hr'
  rw [e] at hh'
  obtain ⟨h, hh, rfl⟩ := List.mem_map.mp hh'
  exact hf r hr h hh

/-- Such a pass, if it writes neither statistic, can only disturb "reachable ⇔ address": run lengths, and
    with them `longestRun` and whether there are runs at all, are those of the input. -/
theorem consistent_of_map {d d' : Doc} {f : Hop → Hop}
    (hm : runsHops d'.runs = (runsHops d.runs).map (·.map f))
    (hc : d'.hopCount = d.hopCount) (he : d'.e2e = d.e2e)
    (hf : ∀ h, (h.reachable = true ↔ HasAddr h) → ((f h).reachable = true ↔ HasAddr (f h)))
    (h : Consistent d) : Consistent d' := by
  obtain ⟨h1, h2, h3, h4⟩ := h
  refine ⟨reachableIffAddr_of_map hm fun r hr x hx => hf x (h1 r hr x hx), ?_, ?_, he ▸ h4⟩
  · unfold HopCountOrder; rw [hc]; exact h2
  · intro hne
    rw [hc, longestRun_of_map hm]
    exact h3 (mt (runs_eq_nil_of_map hm).mpr hne)

theorem assignRunIds_length (rs : List Run) (ds : List Nat) : (assignRunIds rs ds).length = rs.length := by
  induction rs generalizing ds with
  | nil => simp [assignRunIds]
  | cons r t ih => cases ds <;> simp [assignRunIds, ih]

theorem assignRunIds_hops (rs : List Run) (ds : List Nat) :
    (assignRunIds rs ds).map (·.hops) = rs.map (·.hops) := by
  induction rs generalizing ds with
  | nil => simp [assignRunIds]
  | cons r t ih => cases ds <;> simp [assignRunIds, ih]

theorem normalizeHopsCount_runs (d : Doc) : (normalizeHopsCount d).runs = d.runs := by
  unfold normalizeHopsCount; split <;> rfl

theorem normalizeHopsCount_e2e (d : Doc) : (normalizeHopsCount d).e2e = d.e2e := by
  unfold normalizeHopsCount; split <;> rfl

theorem normalize_runs (draws : List Nat) (d : Doc) :
    (normalize draws d).runs =
      (assignRunIds d.runs draws.tail).map fun r => { r with hops := r.hops.map normalizeHop } := by
  simp [normalize, normalizeE2e, normalizeHopsCount_runs, normalizeHops, assignIds]

theorem normalize_e2e (draws : List Nat) (d : Doc) :
    (normalize draws d).e2e = normalizeE2eProbe d.e2e := by
  simp [normalize, normalizeE2e, normalizeHopsCount_e2e, normalizeHops, assignIds]

theorem normalize_testRunId (draws : List Nat) (d : Doc) : (normalize draws d).testRunId = draws.headD 0 := by
  simp only [normalize, normalizeE2e, normalizeHopsCount]
  split <;> rfl

theorem runsHops_normalize (draws : List Nat) (d : Doc) :
    runsHops (normalize draws d).runs = (runsHops d.runs).map (·.map normalizeHop) := by
  rw [normalize_runs]
  unfold runsHops
  rw [← assignRunIds_hops d.runs draws.tail]
  simp [List.map_map, Function.comp_def]

theorem normalize_runs_length (draws : List Nat) (d : Doc) :
    (normalize draws d).runs.length = d.runs.length :=
  runs_length_of_map (runsHops_normalize draws d)

theorem normalize_longestRun (draws : List Nat) (d : Doc) :
    longestRun (normalize draws d).runs = longestRun d.runs :=
  longestRun_of_map (runsHops_normalize draws d)

theorem normalize_hopCount_empty (draws : List Nat) (d : Doc) (h : d.runs = []) :
    (normalize draws d).hopCount = d.hopCount := by
  simp [normalize, normalizeE2e, normalizeHopsCount, normalizeHops, assignIds, h, assignRunIds]

theorem normalize_hopCount (draws : List Nat) (d : Doc) (h : d.runs ≠ []) :
    (normalize draws d).hopCount =
      let cs := hopCounts (normalize draws d).runs
      { avg := (hopsTotal cs : Rat) / (cs.length : Rat), min := hopsMin cs, max := hopsMax cs } := by
  have hl : (normalizeHops (assignIds draws d)).runs.length ≠ 0 := by
    simp [normalizeHops, assignIds, assignRunIds_length]; exact h
  simp only [normalize, normalizeE2e, normalizeHopsCount, hl, if_false]

theorem normalizeHop_ip (h : Hop) : (normalizeHop h).ip = h.ip := by
  unfold normalizeHop; split <;> rfl

theorem normalizeHop_ttl (h : Hop) : (normalizeHop h).ttl = h.ttl := by
  unfold normalizeHop; split <;> rfl

theorem normalizeHop_reachable (h : Hop) :
    (normalizeHop h).reachable = (h.reachable || hasAddrGo h.ip) := by
  unfold normalizeHop; split <;> simp_all

theorem assignRunIds_ids (rs : List Run) (ds : List Nat) (h : rs.length ≤ ds.length) :
    (assignRunIds rs ds).map (·.runId) = ds.take rs.length := by
  induction rs generalizing ds with
  | nil => simp [assignRunIds]
  | cons r t ih =>
    cases ds with
    | nil => simp at h
    | cons x xs =>
      simp only [List.length_cons, Nat.add_le_add_iff_right] at h
      simp [assignRunIds, ih xs h]

theorem redactHop_spec (h : Hop) : RedactedHop h (redactHop h) := by
  unfold RedactedHop redactHop
  by_cases hp : isPrivate h.ip = true
  · have hr := (isPrivate_iff_range h.ip).mp hp
    rw [if_pos hp]
    exact ⟨rfl, fun _ => rfl, fun hn => absurd hr hn, not_private_nil⟩
  · have hr : ¬ PrivateRange h.ip := fun x => hp ((isPrivate_iff_range h.ip).mpr x)
    rw [if_neg hp]
    exact ⟨rfl, fun x => absurd x hr, fun _ => rfl, hr⟩

theorem redactedHops_map (hs : List Hop) : RedactedHops hs (hs.map redactHop) := by
  induction hs with
  | nil => trivial
  | cons h t ih => exact ⟨redactHop_spec h, ih⟩

theorem redactedRuns_map (rs : List Run) :
    RedactedRuns rs (rs.map fun r => { r with hops := r.hops.map redactHop }) := by
  induction rs with
  | nil => trivial
  | cons r t ih => exact ⟨redactedHops_map r.hops, rfl, ih⟩

theorem redacted (d : Doc) : Redacted d (removePrivate d) :=
  ⟨redactedRuns_map d.runs, rfl⟩

def hopAtL (L : List (List Hop)) (i j : Nat) : Option Hop := (L[i]?).bind (·[j]?)
def hopAt (d : Doc) (i j : Nat) : Option Hop := hopAtL (runsHops d.runs) i j

theorem hopAtL_map (L : List (List Hop)) (f : Hop → Hop) (i j : Nat) :
    hopAtL (L.map (·.map f)) i j = (hopAtL L i j).map f := by
  unfold hopAtL
  cases h : L[i]? <;> simp [h]

theorem hopAt_of_map {d d' : Doc} {f : Hop → Hop}
    (hm : runsHops d'.runs = (runsHops d.runs).map (·.map f)) (i j : Nat) :
    hopAt d' i j = (hopAt d i j).map f := by
  unfold hopAt; rw [hm, hopAtL_map]

theorem runsHops_removePrivate (d : Doc) :
    runsHops (removePrivate d).runs = (runsHops d.runs).map (·.map redactHop) := by
  simp [runsHops, removePrivate, List.map_map, Function.comp_def]

/-- what `EnrichWithReverseDns` does to one hop -/
def enrichHop (res : Resolver) (h : Hop) : Hop := { h with names := lookupNames res h.ip }

theorem runsHops_enrich (res : Resolver) (d : Doc) :
    runsHops (enrich res d).runs = (runsHops d.runs).map (·.map (enrichHop res)) := by
  simp [runsHops, enrich, List.map_map, Function.comp_def, enrichHop]

theorem hopAt_removePrivate (d : Doc) (i j : Nat) :
    hopAt (removePrivate d) i j = (hopAt d i j).map redactHop :=
  hopAt_of_map (runsHops_removePrivate d) i j

theorem hopAt_normalize (draws : List Nat) (d : Doc) (i j : Nat) :
    hopAt (normalize draws d) i j = (hopAt d i j).map normalizeHop :=
  hopAt_of_map (runsHops_normalize draws d) i j

theorem hopAt_enrich (res : Resolver) (d : Doc) (i j : Nat) :
    hopAt (enrich res d) i j = (hopAt d i j).map (enrichHop res) :=
  hopAt_of_map (runsHops_enrich res d) i j

/-- the hop the pipeline produces at a position before redaction -/
def preHop (rdns : Bool) (res : Resolver) (h : Hop) : Hop :=
  normalizeHop (if rdns then enrichHop res h else h)

theorem preHop_ip (rdns : Bool) (res : Resolver) (h : Hop) : (preHop rdns res h).ip = h.ip := by
  unfold preHop; rw [normalizeHop_ip]; cases rdns <;> simp [enrichHop]

theorem preHop_ttl (rdns : Bool) (res : Resolver) (h : Hop) : (preHop rdns res h).ttl = h.ttl := by
  unfold preHop; rw [normalizeHop_ttl]; cases rdns <;> simp [enrichHop]

theorem hopAt_pipeline_false (rdns : Bool) (res : Resolver) (draws : List Nat) (d : Doc) (i j : Nat) :
    hopAt (pipeline rdns false res draws d) i j = (hopAt d i j).map (preHop rdns res) := by
  cases rdns
  · have e : pipeline false false res draws d = normalize draws d := by simp [pipeline]
    rw [e, hopAt_normalize]; rfl
  · have e : pipeline true false res draws d = normalize draws (enrich res d) := by simp [pipeline]
    rw [e, hopAt_normalize, hopAt_enrich, Option.map_map]; rfl

theorem pipeline_true (rdns : Bool) (res : Resolver) (draws : List Nat) (d : Doc) :
    pipeline rdns true res draws d = removePrivate (pipeline rdns false res draws d) := by
  simp [pipeline]


end TRV.Proofs.Result
