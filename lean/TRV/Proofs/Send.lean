import TRV.Model.Drivers
/-!
# What a successful `SendProbe` did

One inversion per driver model: the guards the call passed, the record it appended to the sent
probes (the configuration is left alone), and the bytes it handed to the sink.
-/
namespace TRV.Proofs
open TRV TRV.Drv

theorem of_ite_err {σ : Type} {c : Prop} [Decidable c] {x : SendRes σ} {st : σ} {pkt : Bytes}
    (h : (if c then .err else x) = .ok st pkt) : ¬c ∧ x = .ok st pkt := by
  by_cases hc : c
  · rw [if_pos hc] at h; cases h
  · rw [if_neg hc] at h; exact ⟨hc, h⟩

theorem icmpSend_ok {s s' : IcmpSt} {ttl now : Nat} {pkt : Bytes} (h : icmpSend s ttl now = .ok s' pkt) :
    s.cfg.min ≤ ttl ∧ ttl ≤ s.cfg.max ∧ s.find ttl = none ∧
    s' = { s with sent := s.sent ++ [{ ttl, id := s.cfg.echoId, seq := ttl, time := now }] } ∧
    pkt = if s.cfg.localA.length = 16 then Build.icmp6 s.cfg.localA s.cfg.target s.cfg.echoId ttl
          else Build.icmp4 s.cfg.localA s.cfg.target s.cfg.echoId ttl := by
  unfold icmpSend at h
  obtain ⟨hr, h⟩ := of_ite_err h
  obtain ⟨hf, h⟩ := of_ite_err h
  cases h
  exact ⟨by omega, by omega, Option.not_isSome_iff_eq_none.mp hf, rfl, rfl⟩

theorem udpSend_ok {s s' : UdpSt} {ttl now : Nat} {pkt : Bytes} (h : udpSend s ttl now = .ok s' pkt) :
    s.sent.find? (·.id = udpId s.cfg ttl) = none ∧
    s' = { s with sent := s.sent ++ [{ ttl, id := udpId s.cfg ttl, seq := 0, time := now }] } ∧
    pkt = if s.cfg.target.length = 4 then Build.udp4 s.cfg.localA s.cfg.target s.cfg.lport s.cfg.tport ttl
          else Build.udp6 s.cfg.localA s.cfg.target s.cfg.lport s.cfg.tport ttl := by
  unfold udpSend at h
  obtain ⟨hf, h⟩ := of_ite_err h
  cases h
  exact ⟨Option.not_isSome_iff_eq_none.mp hf, rfl, rfl⟩

theorem tcpSend_ok {s s' : TcpSt} {ttl now rnd : Nat} {pkt : Bytes} (h : tcpSend s ttl now rnd = .ok s' pkt) :
    s' = { s with sent := s.sent ++ [{ ttl, id := (tcpIds s.cfg ttl rnd).1, seq := (tcpIds s.cfg ttl rnd).2,
                                       time := now }] } ∧
    pkt = Build.tcpSyn s.cfg.localA s.cfg.target s.cfg.lport s.cfg.tport (tcpIds s.cfg ttl rnd).1
            (tcpIds s.cfg ttl rnd).2 ttl := by
  cases h
  exact ⟨rfl, rfl⟩

theorem sackSend_ok {s s' : SackSt} {ttl now : Nat} {pkt : Bytes} (h : sackSend s ttl now = .ok s' pkt) :
    s.cfg.min ≤ ttl ∧ ttl ≤ s.cfg.max ∧ s.find ttl = none ∧
    s' = { s with sent := s.sent ++ [{ ttl, id := 41821, seq := (s.cfg.isn + ttl) % 4294967296, time := now }] } ∧
    pkt = Build.sack s.cfg.localA s.cfg.target s.cfg.lport s.cfg.tport s.cfg.isn s.cfg.iack ttl s.cfg.ts := by
  unfold sackSend at h
  obtain ⟨hr, h⟩ := of_ite_err h
  obtain ⟨hf, h⟩ := of_ite_err h
  cases h
  exact ⟨by omega, by omega, Option.not_isSome_iff_eq_none.mp hf, rfl, rfl⟩

/-- reachable-state invariant of the UDP driver: every recorded probe carries the identifier the
    builder put on the wire for its TTL -/
def UdpInv (s : UdpSt) : Prop := ∀ p ∈ s.sent, p.id = udpId s.cfg p.ttl

theorem udpInv_init (cfg : UdpCfg) : UdpInv { cfg, sent := [] } :=
  fun _ hp => nomatch hp

theorem udpInv_send {s s' : UdpSt} {ttl now : Nat} {pkt : Bytes} (hi : UdpInv s)
    (h : udpSend s ttl now = .ok s' pkt) : UdpInv s' := by
  obtain ⟨_, rfl, _⟩ := udpSend_ok h
  intro p hp
  rcases List.mem_append.mp hp with hp | hp
  · exact hi p hp
  · cases List.mem_singleton.mp hp; rfl

end TRV.Proofs
