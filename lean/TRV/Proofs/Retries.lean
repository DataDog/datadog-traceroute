import TRV.Spec.Alloc
/-! `retry` entries of an outcome history do not influence what the engines return (C09, C11).
`dropRetry` is defined in `Spec/Alloc` (it is vocabulary of the shared-wire statements), hence the import. -/
namespace TRV.Proofs
open TRV TRV.Spec TRV.Engine

theorem recvLoop_dropRetry (min max : Nat) (outs : List ROut) (s : Slots) :
    recvLoop min max s (dropRetry outs) = recvLoop min max s outs := by
  fun_induction recvLoop min max s outs with
  | case1 | case3 | case4 => rfl
  | case2 _ _ ih => exact ih
  | case5 _ _ _ hv ih => rw [dropRetry, recvLoop, if_pos hv, ih]
  | case6 _ _ _ hv => rw [dropRetry, recvLoop, if_neg hv]

theorem parallelRun_dropRetry (min max : Nat) (sp : Bool) (outs : List ROut) (se ec : Bool) :
    parallelRun min max sp (dropRetry outs) se ec = parallelRun min max sp outs se ec := by
  unfold parallelRun
  rw [recvLoop_dropRetry]

theorem serialWindow_dropRetry (min max : Nat) (w : List ROut) :
    serialWindow min max (dropRetry w) = serialWindow min max w := by
  fun_induction serialWindow min max w with
  | case2 _ ih => exact ih
  | case5 _ _ hv => rw [dropRetry, serialWindow, if_pos hv]
  | case6 _ _ hv => rw [dropRetry, serialWindow, if_neg hv]
  | _ => rfl

theorem serialLoop_dropRetry (min max : Nat) : ∀ (ws : List (List ROut)) (s : Slots),
    serialLoop min max s (ws.map dropRetry) = serialLoop min max s ws
  | [], _ => rfl
  | w :: rest, s => by
    simp only [List.map_cons, serialLoop, serialWindow_dropRetry, serialLoop_dropRetry min max rest]

theorem accepted_dropRetry (outs : List ROut) : accepted (dropRetry outs) = accepted outs := by
  induction outs with
  | nil => rfl
  | cons o rest ih => cases o <;> simp [dropRetry, accepted, ih]

theorem dropRetry_insert (a b : List ROut) : dropRetry (a ++ .retry :: b) = dropRetry (a ++ b) := by
  induction a with
  | nil => rfl
  | cons o a ih => cases o <;> simp [dropRetry, ih]

end TRV.Proofs
