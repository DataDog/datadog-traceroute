import TRV.Proofs.Wire
import TRV.Proofs.Accept
import TRV.Spec.Genuine
/-!
# Parser model ⇒ raw-offset view

Whenever the layered decoders of `TRV.Wire` and the matchers' small readers of `TRV.Drv` succeed, the
fields they return are the bytes at the RFC offsets that `TRV.Spec` reads directly from the packet:
what the raw-offset views `view4`/`quote4`, `view6`/`quote6` read on a parsed packet (`outer4_raw`,
`icmpErr4_raw`, `outer6_raw`, `icmpErr6_raw`), and what `quotedPorts`, `quotedSeq`, `parseEcho4`,
`extractEcho6` read on a window of it.
-/
namespace TRV.Proofs
open TRV TRV.Wire TRV.Drv TRV.Spec

theorem _root_.TRV.Window.raw {w d : Bytes} {k off n : Nat} (hw : Window w d k) (hn : off + n ≤ w.length)
    (hpos : 0 < off + n := by omega) : Spec.raw d (k + off) n = some (slice w off n) := by
  unfold Spec.raw slice
  rw [if_pos (Nat.add_assoc k off n ▸ (hw.le hn).resolve_left (Nat.ne_of_gt hpos)), hw.slice off n hn]

theorem raw_self {d : Bytes} {off n : Nat} (h : off + n ≤ d.length) : Spec.raw d off n = some (slice d off n) := by
  unfold Spec.raw slice; rw [if_pos h]

theorem outer4_raw {buf : Bytes} {hd : IP4} {b0 : Nat} (hb0 : u8 buf 0 = some b0) (hver : b0 / 16 = 4)
    (hip : ip4 buf = some hd) (hfr : hd.isFrag = false) :
    view4 buf = some { outerSrc := hd.src, outerDst := hd.dst, outerProto := hd.proto, outerFrag := 0,
                       l4 := hd.ihl * 4 } ∧
      Window hd.payload buf (hd.ihl * 4) := by
  obtain ⟨b0', g⟩ := ip4_spec hip
  cases hb0.symm.trans g.first
  have hfr' : hd.ff % 16384 = 0 := Decidable.of_not_not (of_decide_eq_false hfr)
  refine ⟨?_, g.payload⟩
  unfold view4
  rw [hb0, g.ff, g.proto, raw_self (Nat.le_trans (by decide) g.length), raw_self g.length]
  simp [hver, g.src, g.dst, g.ihl, hfr']

theorem quote4_raw {buf pl : Bytes} {k : Nat} {i : ICMP4} {info : ICMPInfo}
    (hw : Window pl buf k) (hic : icmp4 pl = some i) (hi : icmpInfo4 i = some info) :
    ∃ k', quote4 buf k = some { icmpType := i.type, icmpCode := i.code, qSrc := info.qsrc, qDst := info.qdst,
                                qId := info.wrappedId, qProto := info.proto, qL4 := k' } ∧
      Window info.payload buf k' := by
  obtain ⟨q, hq, rfl⟩ := Option.map_eq_some_iff.mp hi
  have gi := icmp4_spec hic
  obtain ⟨c0, g⟩ := ip4_spec hq
  have hwi : Window i.payload buf (k + 8) := gi.payload ▸ (Window.drop pl 8).trans hw
  have e1 := hw.u8 gi.type
  have e2 := hw.u8 gi.code
  have e3 := hwi.u8 g.first
  have e4 := hwi.u16 g.id
  have e5 := hwi.raw (off := 12) (n := 4) (Nat.le_trans (by decide) g.length)
  have e6 := hwi.raw (off := 16) (n := 4) g.length
  have e7 := hwi.u8 g.proto
  simp only [Nat.add_zero] at e1 e3
  refine ⟨k + 8 + q.ihl * 4, ?_, g.payload.trans hwi⟩
  unfold quote4
  rw [e1, e2, e3, e4, e5, e6, e7]
  simp [g.src, g.dst, g.ihl]

/-- what every IPv4 ICMP-error arm of a matcher needs: outer view, quote, and the window of the
    quoted transport bytes -/
theorem icmpErr4_raw {buf : Bytes} {hd : IP4} {i : ICMP4} {info : ICMPInfo}
    (hp : parse buf = some (.v4 hd, .icmp4 i)) (hi : icmpInfo4 i = some info) :
    ∃ k,
      view4 buf = some { outerSrc := hd.src, outerDst := hd.dst, outerProto := 1, outerFrag := 0, l4 := hd.ihl * 4 } ∧
      quote4 buf (hd.ihl * 4) = some { icmpType := i.type, icmpCode := i.code, qSrc := info.qsrc,
                                       qDst := info.qdst, qId := info.wrappedId, qProto := info.proto, qL4 := k } ∧
      Window info.payload buf k := by
  cases parse_some hp with
  | icmp4 hb0 hv hip hfr hpr hic =>
    obtain ⟨hview, hwo⟩ := outer4_raw hb0 hv hip hfr
    obtain ⟨k, hquote, hwq⟩ := quote4_raw hwo hic hi
    exact ⟨k, hpr ▸ hview, hquote, hwq⟩

/-- `hty`: a type other than 58 rules out gopacket's jumbo quirk, where the "ICMPv6 header" is really
    the hop-by-hop header and its first byte is 58 -/
theorem outer6_raw {buf : Bytes} {hd : IP6} {i : ICMP6} {b0 : Nat} (hb0 : u8 buf 0 = some b0) (hver : b0 / 16 = 6)
    (hip : ip6 buf = some hd) (hu : hd.upper = 58) (hi : icmp6 hd.payload = some i) (hty : i.type ≠ 58) :
    ∃ k, view6 buf = some { outerSrc := hd.src, outerDst := hd.dst, upper := 58, l4 := k } ∧
      Window hd.payload buf k := by
  have g := ip6_spec hip
  have gi := icmp6_spec hi
  unfold view6
  rw [hb0, g.nextHeader, raw_self (Nat.le_trans (by decide) g.length), raw_self g.length]
  rcases g.payload with ⟨hnz, hup, hw⟩ | ⟨hz, hl, e40, e41, hw | ⟨hw, hj⟩⟩
  · exact ⟨40, by simp [hver, g.src, g.dst, ← hup, hu], hw⟩
  · exact ⟨40 + hl * 8 + 8, by simp [hver, hz, e40, e41, g.src, g.dst, hu], hw⟩
  · exfalso
    rcases hj with hj | hj
    · have hl4 := gi.length
      rw [hj] at hl4; simp at hl4
    · rw [gi.type] at hj; simp at hj; omega

/-- `hnz`: the quoted IPv6 header has no hop-by-hop header (its next-header field, `WrappedProtocol`,
    is not 0) -/
theorem quote6_raw {buf pl : Bytes} {k : Nat} {i : ICMP6} {info : ICMPInfo}
    (hw : Window pl buf k) (hi : icmp6 pl = some i) (hinfo : icmpInfo6 i = some info)
    (hnz : info.proto ≠ 0) :
    ∃ qplen,
      quote6 buf k = some { icmpType := i.type, icmpCode := i.code, qSrc := info.qsrc,
                            qDst := info.qdst, qNh := info.proto, qPlen := qplen, qL4 := k + 8 + 40 } ∧
      Window info.payload buf (k + 8 + 40) ∧ info.wrappedId = (if info.proto = 17 then qplen else 0) := by
  have gi := icmp6_spec hi
  unfold icmpInfo6 at hinfo
  split at hinfo
  · cases hinfo
  rename_i b hb
  obtain ⟨hb6, hinfo⟩ := of_ite_none hinfo
  obtain ⟨q, hq, rfl⟩ := Option.map_eq_some_iff.mp hinfo
  have hwq0 : Window (i.payload.drop 4) buf (k + 8) :=
    gi.payload ▸ ((Window.drop (pl.drop 4) 4).trans (Window.drop pl 4)).trans hw
  have g := ip6_spec hq
  have e1 := hw.u8 gi.type
  have e2 := hw.u8 gi.code
  have hb' : u8 (i.payload.drop 4) 0 = some b := (u8_drop _ 4 0).trans hb
  have e3 := hwq0.u8 hb'
  have e4 := hwq0.u16 g.len
  have e5 := hwq0.u8 g.nextHeader
  have e6 := hwq0.raw (off := 8) (n := 16) (Nat.le_trans (by decide) g.length)
  have e7 := hwq0.raw (off := 24) (n := 16) g.length
  simp only [Nat.add_zero] at e1 e3
  rcases g.payload with ⟨_, _, hwp⟩ | ⟨hz, _⟩
  · refine ⟨q.len, ?_, hwp.trans hwq0, rfl⟩
    unfold quote6
    rw [e1, e2, e3, e4, e5, e6, e7]
    simp [Decidable.of_not_not hb6, show q.nextHeader ≠ 0 from hnz, g.src, g.dst]
  · exact absurd hz hnz

/-- what every IPv6 ICMP-error arm of a matcher needs -/
theorem icmpErr6_raw {buf : Bytes} {hd : IP6} {i : ICMP6} {info : ICMPInfo}
    (hp : parse buf = some (.v6 hd, .icmp6 i)) (hi : icmpInfo6 i = some info) (hty : i.type ≠ 58)
    (hnz : info.proto ≠ 0) :
    ∃ k qplen,
      view6 buf = some { outerSrc := hd.src, outerDst := hd.dst, upper := 58, l4 := k } ∧
      quote6 buf k = some { icmpType := i.type, icmpCode := i.code, qSrc := info.qsrc, qDst := info.qdst,
                            qNh := info.proto, qPlen := qplen, qL4 := k + 8 + 40 } ∧
      Window info.payload buf (k + 8 + 40) ∧ info.wrappedId = (if info.proto = 17 then qplen else 0) := by
  cases parse_some hp with
  | icmp6 hb0 hv hip hup hic =>
    obtain ⟨k, hview, hwo⟩ := outer6_raw hb0 hv hip hup hic hty
    obtain ⟨qplen, hquote, hwq, hid⟩ := quote6_raw hwo hic hi hnz
    exact ⟨k, qplen, hview, hquote, hwq, hid⟩

theorem _root_.TRV.Window.portsAt {w d : Bytes} {k off a b : Nat} (hw : Window w d k)
    (h1 : u16 w off = some a) (h2 : u16 w (off + 2) = some b) : portsAt d (k + off) = some (a, b) := by
  unfold Spec.portsAt
  rw [hw.u16 h1, Nat.add_assoc, hw.u16 h2]

theorem quotedPorts_raw {pl buf : Bytes} {k sp dp : Nat} (hw : Window pl buf k)
    (h : quotedPorts pl = some (sp, dp)) : portsAt buf k = some (sp, dp) := by
  unfold quotedPorts at h
  obtain ⟨_, h⟩ := of_ite_none h
  split at h
  · rename_i a b ha hb
    cases h
    exact hw.portsAt ha hb
  · cases h

theorem quotedSeq_raw {pl buf : Bytes} {k sq : Nat} (hw : Window pl buf k)
    (h : quotedSeq pl = some sq) : u32 buf (k + 4) = some sq :=
  hw.u32 (of_ite_none h).2

theorem parseEcho4_raw {pl buf : Bytes} {k id seq : Nat} (hw : Window pl buf k)
    (h : parseEcho4 pl = some (id, seq)) :
    ∃ ety, u8 buf k = some ety ∧ u16 buf (k + 4) = some id ∧ u16 buf (k + 6) = some seq ∧ (ety = 8 ∨ ety = 0) := by
  obtain ⟨ty, h1, h2, h3, hty⟩ := parseEcho4_some h
  exact ⟨ty, hw.u8 h1, hw.u16 h2, hw.u16 h3, hty⟩

/-- `hseq`: a sequence number other than 0 excludes the zero-valued Echo that `extractEchoRequest`
    returns when the quoted bytes end with the ICMPv6 header -/
theorem extractEcho6_raw {pl buf : Bytes} {k id seq : Nat} (hw : Window pl buf k)
    (h : extractEcho6 pl = some (id, seq)) (hseq : seq ≠ 0) :
    ∃ ety, u8 buf k = some ety ∧ u16 buf (k + 4) = some id ∧ u16 buf (k + 6) = some seq ∧
      (ety = 128 ∨ ety = 129) := by
  unfold extractEcho6 at h
  split at h
  · cases h
  rename_i j hj
  have gj := icmp6_spec hj
  rcases ite_cases h with ⟨_, h⟩ | ⟨_, h⟩
  · cases h; exact absurd rfl hseq
  rcases ite_cases h with ⟨hty, h⟩ | ⟨_, h⟩
  · split at h
    · rename_i a b ha hb
      cases h
      have hwj : Window j.payload buf (k + 4) := gj.payload ▸ (Window.drop pl 4).trans hw
      exact ⟨j.type, hw.u8 gj.type, hwj.u16 ha, Nat.add_assoc k 4 2 ▸ hwj.u16 hb, hty⟩
    · cases h
  · cases h

end TRV.Proofs
