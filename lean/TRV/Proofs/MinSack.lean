import TRV.Model.Drivers
import TRV.Proofs.Bytes
/-!
# `getMinSack`: the least relative left edge over all SACK blocks

`minSack` is `List.min?` of `allEdges` (`minSack_eq`), the relative left edges of every complete
8-byte block of every SACK option (`allEdges_mem`); hence it returns their least element
(`minSack_least`), and `none` exactly when there is none (`minSack_none_iff`).
`minSack_sackOpt` evaluates it on the option list of the catalogue's one-block form.
-/
namespace TRV.Proofs
open TRV TRV.Wire TRV.Drv

/-- all relative left edges `getMinSack` looks at -/
def allEdges (isn : Nat) (opts : List (Nat × Bytes)) : List Nat :=
  (opts.filter (·.1 = 5)).flatMap (fun o => sackEdges isn o.2.length o.2)

theorem minSack_eq (isn : Nat) (opts : List (Nat × Bytes)) : minSack isn opts = (allEdges isn opts).min? := by
  rw [minSack, ← allEdges]
  cases allEdges isn opts <;> rfl

theorem minSack_least {isn : Nat} {opts : List (Nat × Bytes)} {m : Nat} (h : minSack isn opts = some m) :
    m ∈ allEdges isn opts ∧ ∀ e ∈ allEdges isn opts, m ≤ e :=
  List.min?_eq_some_iff.mp (minSack_eq isn opts ▸ h)

theorem minSack_none_iff {isn : Nat} {opts : List (Nat × Bytes)} :
    minSack isn opts = none ↔ allEdges isn opts = [] := by
  rw [minSack_eq, List.min?_eq_none_iff]

def relEdge (isn l : Nat) : Nat := (l + 4294967296 - isn % 4294967296) % 4294967296

/-- a sequence number ISN + t (mod 2^32), taken relative to the ISN again, is t: every ISN, wrap-around
    included.  Stated, like its converse `seq_of_rel`, on the term that `relEdge` abbreviates: the
    matcher (`SackAccepts.te`) and the specification (`GenuineSackQuoted.rel`) spell it out. -/
theorem relEdge_add (isn : Nat) {t : Nat} (ht : t < 4294967296) :
    ((isn + t) % 4294967296 + 4294967296 - isn % 4294967296) % 4294967296 = t := by
  omega

/-- the SACK matcher's relative sequence number, turned round: a quoted sequence number `sq` that is
    `t` past the ISN (mod 2^32) is the sequence number of the probe for TTL `t` -/
theorem seq_of_rel {sq isn t : Nat} (hsq : sq < 4294967296)
    (h : (sq + 4294967296 - isn % 4294967296) % 4294967296 = t) : (isn + t) % 4294967296 = sq := by
  omega

theorem sackEdges_short {isn n : Nat} {d : Bytes} (h : d.length < 8) : sackEdges isn n d = [] := by
  cases n with
  | zero => rfl
  | succ n => rw [sackEdges, if_pos h]

theorem sackEdges_block {isn n l : Nat} {d : Bytes} (hlen : 8 ≤ d.length) (h : u32 d 0 = some l) :
    sackEdges isn (n + 1) d = relEdge isn l :: sackEdges isn n (d.drop 8) := by
  rw [sackEdges, if_neg (Nat.not_lt.mpr hlen), h]; rfl

theorem sackEdges_mem (isn n : Nat) (d : Bytes) (e : Nat) :
    e ∈ sackEdges isn n d ↔ ∃ k, k < n ∧ 8 * k + 8 ≤ d.length ∧ ∃ l, u32 d (8 * k) = some l ∧ e = relEdge isn l := by
  induction n generalizing d with
  | zero => simp [sackEdges]
  | succ n ih =>
    -- block 0, or block k + 1 of `d`, which is block k of `d.drop 8`
    rw [Nat.exists_lt_succ_left]
    by_cases hlen : d.length < 8
    · have hno : ∀ k, ¬ 8 * k + 8 ≤ d.length := fun k h => by omega
      rw [sackEdges_short hlen]
      exact iff_of_false List.not_mem_nil (by rintro (⟨h, _⟩ | ⟨k, _, h, _⟩) <;> exact hno _ h)
    · obtain ⟨l0, h0⟩ := u32_of_lt (b := d) (off := 0) (by omega)
      rw [sackEdges_block (by omega) h0, List.mem_cons, ih]
      refine or_congr ⟨fun h => ⟨by omega, l0, h0, h⟩, fun ⟨_, l, hu, he⟩ => ?_⟩
        (exists_congr fun k => and_congr_right fun _ => and_congr ?_ ?_)
      · cases h0.symm.trans hu; exact he
      · rw [List.length_drop]; exact Nat.le_sub_iff_add_le (Nat.le_of_not_lt hlen)
      · rw [u32_drop, Nat.mul_succ, Nat.add_comm]

theorem allEdges_mem (isn : Nat) (opts : List (Nat × Bytes)) (e : Nat) :
    e ∈ allEdges isn opts ↔ ∃ d k l, (5, d) ∈ opts ∧ 8 * k + 8 ≤ d.length ∧ u32 d (8 * k) = some l ∧ e = relEdge isn l := by
  unfold allEdges
  simp only [List.mem_flatMap, List.mem_filter, decide_eq_true_eq, sackEdges_mem]
  constructor
  · rintro ⟨⟨ty, d⟩, ⟨hm, hty⟩, k, _, hle, l, hu, he⟩
    subst hty
    exact ⟨d, k, l, hm, hle, hu, he⟩
  · rintro ⟨d, k, l, hm, hle, hu, he⟩
    exact ⟨(5, d), ⟨hm, rfl⟩, k, by show k < d.length; omega, hle, l, hu, he⟩

theorem allEdges_nn5 (isn : Nat) (d : Bytes) : allEdges isn [(1, []), (1, []), (5, d)] = sackEdges isn d.length d := by
  simp [allEdges]

theorem minSack_of_allEdges {isn x : Nat} {opts : List (Nat × Bytes)} (h : allEdges isn opts = [x]) :
    minSack isn opts = some x := by
  rw [minSack_eq, h]; rfl

/-- NOP NOP SACK(left, right): the NOPs are no SACK options, the SACK option holds one block.
    (In steps about variables: neither the elaborator nor the kernel must be asked whether two terms
    that contain the literal 2^32 next to a variable are definitionally equal.) -/
theorem minSack_sackOpt {isn left right : Nat} (hl : left < 4294967296) :
    minSack isn [(1, []), (1, []), (5, be32 left ++ be32 right)] = some (relEdge isn left) :=
  minSack_of_allEdges (by
    have h8 : (be32 left ++ be32 right).length = 8 := rfl
    rw [allEdges_nn5, h8, sackEdges_block (n := 7) (Nat.le_of_eq h8.symm) (u32_be32 hl _),
      sackEdges_short (by rw [List.length_drop, h8]; decide)])
end TRV.Proofs
