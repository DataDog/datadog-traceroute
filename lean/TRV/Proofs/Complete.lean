import TRV.Proofs.Catalogue
import TRV.Proofs.Accept
import TRV.Proofs.Wire
/-!
# Byte-level completeness (C02), IPv4: the catalogue's wire forms decode to the view the matchers accept

For every outer header length 5..15 with ANY option bytes gopacket's option loop (`ip4OptsOK`, the
model of `IPv4.DecodeFromBytes`' loop) does not reject, and the same for a quoted header and for TCP
options (`tcpOpts`).  A decoder succeeds when its reads and guards do (`ip4_of_reads`, `tcp_of_reads`); on a
catalogue header the reads return the fields (`rawHdr4o_reads`); `FrameParser.Parse` follows from its
decoders (`parse_of_parsed`); `GetICMPInfo` on an error quoting a probe yields the quoted header's fields
and the quoted transport bytes (`icmpInfo4_quote`), whatever the quoted protocol.  With `*Recv_of_accepts`
these give the theorems of `Props/C02Opts.lean`; the forms without options are their instances
(`Props/C02.lean`).
-/
namespace TRV.Proofs
open TRV TRV.Wire TRV.Drv

/-- what the IPv4 decoder asks of a header length and its option bytes -/
structure Opts4 (ihl : Nat) (opts : Bytes) : Prop where
  ge : 5 ≤ ihl
  le : ihl ≤ 15
  len : opts.length = ihl * 4 - 20
  ok : ip4OptsOK (ihl * 4 - 20) opts = true

theorem Opts4.hdr_length {ihl tos len id ff ttl proto ck : Nat} {src dst opts : Bytes} (ho : Opts4 ihl opts)
    (hs : src.length = 4) (hd : dst.length = 4) : (rawHdr4o ihl tos len id ff ttl proto ck src dst opts).length = ihl * 4 := by
  simp only [rawHdr4o, List.length_append, be16_length, hs, hd, ho.len, List.length_cons, List.length_nil]
  have := ho.ge; omega

/-- `d` names the packet, so that the statement spells the form out once and not per read; callers pass `rfl` -/
theorem rawHdr4o_reads {ihl tos len id ff ttl proto ck : Nat} {src dst opts : Bytes} (hs : src.length = 4) (hd : dst.length = 4)
    (ho : Opts4 ihl opts) (htos : tos < 256) (hl : len < 65536) (hid : id < 65536) (hff : ff < 65536)
    (httl : ttl < 256) (hpr : proto < 256) (rest : Bytes) {d : Bytes}
    (h : d = rawHdr4o ihl tos len id ff ttl proto ck src dst opts ++ rest) :
    u8 d 0 = some (0x40 + ihl) ∧ u8 d 1 = some tos ∧ u16 d 2 = some len ∧ u16 d 4 = some id ∧ u16 d 6 = some ff ∧
    u8 d 8 = some ttl ∧ u8 d 9 = some proto ∧ slice d 12 4 = src ∧ slice d 16 4 = dst ∧
    slice d 20 (ihl * 4 - 20) = opts := by
  have hb0 : 0x40 + ihl < 256 := by have := ho.le; omega
  -- the walk by `drop` described at the head of `Proofs/Bytes.lean`
  simp only [h, rawHdr4o, List.append_assoc, List.cons_append, List.nil_append,
    slice, u8_succ, u16_succ, List.drop_succ_cons, drop_be16, List.drop_zero, drop_append_add hs, drop_append_add hd,
    List.take_left' hs, List.take_left' hd, List.take_left' ho.len,
    u8_byte hb0, u8_byte htos, u8_byte httl, u8_byte hpr, u16_be16 hl, u16_be16 hid, u16_be16 hff, and_self]

theorem ip4_rawHdr4o {ihl tos len id ff ttl proto ck : Nat} {src dst opts pl : Bytes} (hs : src.length = 4) (hd : dst.length = 4)
    (ho : Opts4 ihl opts) (htos : tos < 256) (hlen : ihl * 4 ≤ len) (hl : len < 65536) (hid : id < 65536) (hff : ff < 65536)
    (httl : ttl < 256) (hpr : proto < 256) :
    ip4 (rawHdr4o ihl tos len id ff ttl proto ck src dst opts ++ pl) =
      some { ihl, tos, len, id, ff, ttl, proto, src, dst, payload := pl.take (len - ihl * 4) } := by
  have hH : (rawHdr4o ihl tos len id ff ttl proto ck src dst opts).length = ihl * 4 := ho.hdr_length hs hd
  obtain ⟨h0, h1, h2, h4, h6, h8, h9, hsrc, hdst, hopt⟩ := rawHdr4o_reads (ck := ck) hs hd ho htos hl hid hff httl hpr pl rfl
  rw [ip4_of_reads h0 h1 h2 h4 h6 h8 h9 (show (0x40 + ihl) % 16 = ihl by have := ho.le; omega) ho.ge hlen
      (by rw [List.length_append, hH]; omega) (hopt.symm ▸ ho.ok),
    hsrc, hdst, List.take_append, hH, List.take_of_length_le (Nat.le_trans (Nat.le_of_eq hH) hlen), List.drop_left' hH]

/-- `FrameParser.Parse` on an IPv4 datagram whose total-length field is its length, read into the drivers'
    buffer (`hsize`: 1024 is `Wire.bufSize`, written as a literal so that `omega` sees it, here and
    wherever an `hsize` stands): nothing is cut, the version nibble is 4, the IPv4 decoder yields the
    header fields and `pl`;
    `k` adds what the second layer needs (a constructor of `Parsed`).  A continuation and not a
    conjunction of the three facts: applied by `exact`, the goal fixes the header's twelve parameters,
    which a `have`/`obtain` of the facts would leave open. -/
theorem parse_ip4_datagram {ihl tos len id ff ttl proto ck : Nat} {src dst opts pl : Bytes} {l4 : L4}
    (hlen : len = ihl * 4 + pl.length) (hs : src.length = 4) (hd : dst.length = 4) (ho : Opts4 ihl opts)
    (htos : tos < 256) (hid : id < 65536) (hff : ff < 65536) (httl : ttl < 256) (hpr : proto < 256)
    (hsize : len ≤ 1024)
    (k : ∀ {b0 : Nat}, u8 (rawHdr4o ihl tos len id ff ttl proto ck src dst opts ++ pl) 0 = some b0 → b0 / 16 = 4 →
      ip4 (rawHdr4o ihl tos len id ff ttl proto ck src dst opts ++ pl) =
        some { ihl, tos, len, id, ff, ttl, proto, src, dst, payload := pl } →
      Parsed (rawHdr4o ihl tos len id ff ttl proto ck src dst opts ++ pl)
        (.v4 { ihl, tos, len, id, ff, ttl, proto, src, dst, payload := pl }) l4) :
    parse ((rawHdr4o ihl tos len id ff ttl proto ck src dst opts ++ pl).take bufSize) =
      some (.v4 { ihl, tos, len, id, ff, ttl, proto, src, dst, payload := pl }, l4) := by
  have h15 := ho.le
  have hL : (rawHdr4o ihl tos len id ff ttl proto ck src dst opts ++ pl).length = len := by
    rw [List.length_append, ho.hdr_length hs hd, hlen]
  rw [List.take_of_length_le (by rw [hL]; exact hsize)]
  exact parse_of_parsed (k (rawHdr4o_reads hs hd ho htos (by omega) hid hff httl hpr pl rfl).1 (by omega)
    (by rw [ip4_rawHdr4o hs hd ho htos (by omega) (by omega) hid hff httl hpr, List.take_of_length_le (by omega)]))

theorem icmp_length {ty code ick : Nat} {rest4 body : Bytes} (hrest : rest4.length = 4) :
    (([byte ty, byte code] ++ be16 ick ++ rest4) ++ body).length = 8 + body.length := by
  simp [be16, hrest]; omega

theorem icmp4_hdr {ty code ick id seq : Nat} {rest4 body : Bytes} (hty : ty < 256) (hco : code < 256)
    (hrest : rest4.length = 4) (hid : u16 rest4 0 = some id) (hseq : u16 rest4 2 = some seq) :
    icmp4 (([byte ty, byte code] ++ be16 ick ++ rest4) ++ body) =
      some { type := ty, code := code, id := id, seq := seq, payload := body } := by
  have hf : ([byte ty, byte code] ++ be16 ick ++ rest4) ++ body = byte ty :: byte code :: (be16 ick ++ (rest4 ++ body)) := by
    simp only [List.append_assoc, List.cons_append, List.nil_append]
  have h4 : u16 (rest4 ++ body) 0 = some id := by rw [u16_append_left (by omega)]; exact hid
  have h6 : u16 ((rest4 ++ body).drop 2) 0 = some seq := by rw [u16_drop, u16_append_left (by omega)]; exact hseq
  unfold icmp4
  rw [if_neg (by simp [be16, hrest])]
  simp only [hf, u8_succ, u16_succ, List.drop_succ_cons, drop_be16, List.drop_zero, u8_byte hty, u8_byte hco, h4, h6,
    drop_append_add hrest]

/-- `id`, `seq`: what the four bytes `rest4` hold; a form that does not look at them passes `u16_beNat` -/
theorem parse_icmpMsg4o {oihl otos oid ottl ock ty code ick id seq : Nat} {r dst oopts rest4 body : Bytes}
    (hr : r.length = 4) (hd : dst.length = 4) (hrest : rest4.length = 4) (ho : Opts4 oihl oopts)
    (h1 : otos < 256) (h2 : oid < 65536) (h3 : ottl < 256) (hty : ty < 256) (hco : code < 256)
    (hid : u16 rest4 0 = some id) (hseq : u16 rest4 2 = some seq)
    (hsize : oihl * 4 + 8 + body.length ≤ 1024) :
    parse ((icmpMsg4o oihl otos oid ottl ock r dst oopts ty code ick rest4 body).take bufSize) =
      some (.v4 { ihl := oihl, tos := otos, len := oihl * 4 + 8 + body.length, id := oid, ff := 0, ttl := ottl, proto := 1,
                  src := r, dst := dst, payload := ([byte ty, byte code] ++ be16 ick ++ rest4) ++ body },
            .icmp4 { type := ty, code := code, id := id, seq := seq, payload := body }) :=
  parse_ip4_datagram (by rw [icmp_length hrest, Nat.add_assoc]) hr hd ho h1 h2 (by decide) h3 (by decide) hsize
    fun hb hv hip => .icmp4 hb hv hip rfl rfl (icmp4_hdr hty hco hrest hid hseq)

theorem quoted4_length {qihl qtos qlen qid qff qttl qproto qck : Nat} {qsrc qdst qopts q8 extra : Bytes}
    (hs : qsrc.length = 4) (hd : qdst.length = 4) (hq : Opts4 qihl qopts) (hq8 : q8.length = 8) :
    (rawHdr4o qihl qtos qlen qid qff qttl qproto qck qsrc qdst qopts ++ (q8 ++ extra)).length = qihl * 4 + 8 + extra.length := by
  rw [List.length_append, hq.hdr_length hs hd, List.length_append, hq8, Nat.add_assoc]

/-- `GetICMPInfo` on a quoted IPv4 datagram: the quoted header's fields, and behind them the first 8
    bytes `q8` of the quoted transport header followed by what the quoted total length leaves of `extra` -/
theorem icmpInfo4_quote {ty code id seq qihl qtos qlen qid qff qttl qproto qck : Nat} {qsrc qdst qopts q8 extra : Bytes}
    (hs : qsrc.length = 4) (hd : qdst.length = 4) (hq : Opts4 qihl qopts) (hq8 : q8.length = 8)
    (h1 : qtos < 256) (h2 : qihl * 4 + 8 ≤ qlen) (h3 : qlen < 65536) (h4 : qid < 65536) (h5 : qff < 65536)
    (h6 : qttl < 256) (h7 : qproto < 256) :
    icmpInfo4 { type := ty, code := code, id := id, seq := seq,
                payload := rawHdr4o qihl qtos qlen qid qff qttl qproto qck qsrc qdst qopts ++ (q8 ++ extra) } =
      some { wrappedId := qid, proto := qproto, qsrc := qsrc, qdst := qdst,
             payload := q8 ++ extra.take (qlen - qihl * 4 - 8) } := by
  unfold icmpInfo4
  rw [ip4_rawHdr4o hs hd hq h1 (by omega) h3 h4 h5 h6 h7, take_append_of_le hq8 (by omega)]
  rfl

theorem quotedPorts_q8 {a b : Nat} {w x : Bytes} (hw : w.length = 4) (ha : a < 65536) (hb : b < 65536) :
    quotedPorts ((be16 a ++ be16 b ++ w) ++ x) = some (a, b) := by
  unfold quotedPorts
  rw [if_neg (by simp [be16, hw]), List.append_assoc, List.append_assoc, (u16_pair ha hb _).1, (u16_pair ha hb _).2]

theorem quotedSeq_q8 {a b q : Nat} {x : Bytes} (hq : q < 4294967296) :
    quotedSeq ((be16 a ++ be16 b ++ be32 q) ++ x) = some q := by
  unfold quotedSeq
  rw [if_neg (by simp [be16, be32]), List.append_assoc, List.append_assoc, u32_succ, drop_be16, drop_be16, List.drop_zero]
  exact u32_be32 hq x

theorem parseEcho4_q8 {ety ecode eck id t : Nat} {x : Bytes} (hety : ety = 8 ∨ ety = 0)
    (hid : id < 65536) (ht : t < 65536) :
    parseEcho4 (([byte ety, byte ecode] ++ be16 eck ++ be16 id ++ be16 t) ++ x) = some (id, t) := by
  have hf : ([byte ety, byte ecode] ++ be16 eck ++ be16 id ++ be16 t) ++ x =
      byte ety :: byte ecode :: (be16 eck ++ (be16 id ++ (be16 t ++ x))) := by
    simp only [List.append_assoc, List.cons_append, List.nil_append]
  have h8 : ety < 256 := by omega
  unfold parseEcho4
  simp only [hf, u16_succ, List.drop_succ_cons, drop_be16, List.drop_zero, u8_byte h8, u16_be16 hid, u16_be16 ht, hety, if_true]

/-- what the TCP decoder asks of a data offset and its option bytes; `parsed` is what its option loop returns -/
structure OptsTcp (doff : Nat) (topts : Bytes) (parsed : List (Nat × Bytes)) : Prop where
  ge : 5 ≤ doff
  le : doff ≤ 15
  len : topts.length = doff * 4 - 20
  ok : tcpOpts (doff * 4 - 20) topts = some parsed

theorem OptsTcp.hdr_length {doff sp dp seq ack fl win ck urg : Nat} {topts : Bytes} {parsed : List (Nat × Bytes)}
    (ho : OptsTcp doff topts parsed) : (rawTcpO doff sp dp seq ack fl win ck urg topts).length = doff * 4 := by
  simp only [rawTcpO, List.length_append, be16_length, be32_length, ho.len, List.length_cons, List.length_nil]
  have := ho.ge; omega

theorem tcp_rawTcpO {doff sp dp seq ack fl win ck urg : Nat} {topts pl : Bytes} {parsed : List (Nat × Bytes)}
    (ho : OptsTcp doff topts parsed)
    (h1 : sp < 65536) (h2 : dp < 65536) (h3 : seq < 4294967296) (h4 : ack < 4294967296) (h5 : fl < 256) :
    tcp (rawTcpO doff sp dp seq ack fl win ck urg topts ++ pl) =
      some { sport := sp, dport := dp, seq := seq, ack := ack, flags := fl, opts := parsed, payload := pl } := by
  have hH : (rawTcpO doff sp dp seq ack fl win ck urg topts).length = doff * 4 := ho.hdr_length
  have hb : doff * 16 < 256 := by have := ho.le; omega
  have hr : ∀ d, d = rawTcpO doff sp dp seq ack fl win ck urg topts ++ pl →
      u16 d 0 = some sp ∧ u16 d 2 = some dp ∧ u32 d 4 = some seq ∧ u32 d 8 = some ack ∧
      u8 d 12 = some (doff * 16) ∧ u8 d 13 = some fl ∧ slice d 20 (doff * 4 - 20) = topts := by
    intro d h
    simp only [h, rawTcpO, List.append_assoc, List.cons_append, List.nil_append,
      slice, u8_succ, u16_succ, u32_succ, List.drop_succ_cons, drop_be16, drop_be32, List.drop_zero,
      List.take_left' ho.len, u8_byte hb, u8_byte h5, u16_be16 h1, u16_be16 h2, u32_be32 h3, u32_be32 h4, and_self]
  obtain ⟨e0, e2, e4, e8, e12, e13, hsl⟩ := hr _ rfl
  rw [tcp_of_reads e0 e2 e4 e8 e12 e13 (Nat.mul_div_cancel _ (by decide)) ho.ge (by rw [List.length_append, hH]; omega)
    (hsl.symm ▸ ho.ok), List.drop_left' hH]

theorem parse_tcpMsg4oo {oihl otos oid ff ottl ock doff sp dp seq ack fl win ck urg : Nat} {src dst oopts topts pl : Bytes}
    {parsed : List (Nat × Bytes)}
    (hs : src.length = 4) (hd : dst.length = 4) (ho : Opts4 oihl oopts) (ht : OptsTcp doff topts parsed)
    (h1 : otos < 256) (h2 : oid < 65536) (h3 : ottl < 256) (hff : ff < 65536) (hfr : ff % 16384 = 0)
    (b1 : sp < 65536) (b2 : dp < 65536) (b3 : seq < 4294967296) (b4 : ack < 4294967296) (b5 : fl < 256)
    (hsize : oihl * 4 + (doff * 4 + pl.length) ≤ 1024) :
    parse ((tcpMsg4oo oihl otos oid ff ottl ock src dst oopts doff sp dp seq ack fl win ck urg topts pl).take bufSize) =
      some (.v4 { ihl := oihl, tos := otos, len := oihl * 4 + (doff * 4 + pl.length), id := oid, ff := ff, ttl := ottl, proto := 6,
                  src := src, dst := dst, payload := rawTcpO doff sp dp seq ack fl win ck urg topts ++ pl },
            .tcp { sport := sp, dport := dp, seq := seq, ack := ack, flags := fl, opts := parsed, payload := pl }) :=
  parse_ip4_datagram (by rw [List.length_append, ht.hdr_length]) hs hd ho h1 h2 hff h3 (by decide) hsize
    fun hb hv hip => .tcp4 hb hv hip (by simp [IP4.isFrag, hfr]) rfl (tcp_rawTcpO ht b1 b2 b3 b4 b5)

theorem tcpOpts_sackOpt (left right : Nat) :
    tcpOpts 12 (sackOpt left right) = some [(1, []), (1, []), (5, be32 left ++ be32 right)] := by
  simp [sackOpt, tcpOpts, be32, be16, byte_toNat, slice]

/-- the option hypothesis is satisfiable for every header length: NOP padding -/
theorem ip4OptsOK_nops (n m : Nat) : ip4OptsOK m (List.replicate n (byte 1)) = true := by
  induction m generalizing n with
  | zero => rfl
  | succ m ih =>
    cases n with
    | zero => rfl
    | succ n =>
      simp only [List.replicate_succ, ip4OptsOK]
      rw [if_neg (by simp [byte_toNat]), if_pos (by simp [byte_toNat])]
      exact ih n

end TRV.Proofs
