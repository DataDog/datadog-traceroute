import TRV.Spec.Multi
/-! Helper lemmas for C15: the accumulators as `filterMap`s of the completion order (`foldl_step`), and from
that `aggregate_eq`, the result of a whole run as one `if` on `allOk`, which is what the property theorems use. -/
namespace TRV.Proofs.Multi
open TRV.Multi TRV.Spec.Multi

/-- what a finished probe contributes to `E2eProbe.RTTs` (a failed probe contributes `0`) -/
def sample? : Completion → Option Rtt
  | .probe _ (.ok t) => some t
  | .probe _ (.err _) => some 0
  | _ => none

def samples (cs : List Completion) : List Rtt := cs.filterMap sample?

theorem foldl_step (cs : List Completion) (a : Acc) :
    cs.foldl step a =
      { runs := a.runs ++ okRuns cs, rtts := a.rtts ++ samples cs, errs := a.errs ++ failures cs } := by
  induction cs generalizing a with
  | nil => simp [okRuns, samples, failures]
  | cons c cs ih =>
    rw [List.foldl_cons, ih]
    -- the three `filterMap`s compute on the head completion
    rcases c with ⟨i, v | e⟩ | ⟨j, t | e⟩ <;> simp only [step, List.append_assoc] <;> rfl

theorem failures_nil_iff (cs : List Completion) : failures cs = [] ↔ allOk cs = true := by
  simp only [failures, allOk, List.filterMap_eq_nil_iff, List.all_eq_true]
  refine forall₂_congr fun c _ => ?_
  rcases c with ⟨i, v | e⟩ | ⟨j, t | e⟩ <;> simp [isOk]

theorem samples_of_allOk (cs : List Completion) (h : allOk cs = true) : samples cs = okRtts cs := by
  induction cs with
  | nil => rfl
  | cons c cs ih =>
    simp only [allOk, List.all_cons, Bool.and_eq_true] at h
    rcases c with ⟨i, o⟩ | ⟨j, t | e⟩
    · exact ih h.2
    · exact congrArg (t :: ·) (ih h.2)
    · cases h.1

theorem samples_length (cs : List Completion) : (samples cs).length = nProbes cs := by
  induction cs with
  | nil => rfl
  | cons c cs ih =>
    -- a run adds to neither side, a probe one to both
    rcases c with ⟨i, o⟩ | ⟨j, t | e⟩
    · exact ih
    · exact congrArg (· + 1) ih
    · exact congrArg (· + 1) ih

theorem okRuns_length_of_allOk (cs : List Completion) (h : allOk cs = true) :
    (okRuns cs).length = nRuns cs := by
  induction cs with
  | nil => rfl
  | cons c cs ih =>
    simp only [allOk, List.all_cons, Bool.and_eq_true] at h
    rcases c with ⟨i, v | e⟩ | ⟨j, o⟩
    · exact congrArg (· + 1) (ih h.2)
    · cases h.1
    · exact ih h.2

theorem allOk_perm {cs outs : List Completion} (h : cs.Perm outs) : allOk cs = allOk outs :=
  h.all_eq

theorem nRuns_perm {cs outs : List Completion} (h : cs.Perm outs) : nRuns cs = nRuns outs :=
  (h.filter _).length_eq

theorem nProbes_perm {cs outs : List Completion} (h : cs.Perm outs) : nProbes cs = nProbes outs :=
  (h.filter _).length_eq

theorem aggregate_eq (cs : List Completion) (pub : PubIP) :
    aggregate cs pub =
      if allOk cs = true then .ok { runs := okRuns cs, rtts := okRtts cs, publicIP := pubOf pub }
      else .joined (failures cs) := by
  unfold aggregate
  simp only [accumulate, foldl_step]
  by_cases h : allOk cs = true
  · have hf := (failures_nil_iff cs).mpr h
    simp [h, hf, samples_of_allOk cs h]
  · have hf : failures cs ≠ [] := fun hf => h ((failures_nil_iff cs).mp hf)
    have : (failures cs).length > 0 := List.length_pos_iff.mpr hf
    simp [h, this]

theorem aggregate_ok {cs : List Completion} {pub : PubIP} {r : Results} (h : aggregate cs pub = .ok r) :
    allOk cs = true ∧ r = { runs := okRuns cs, rtts := okRtts cs, publicIP := pubOf pub } := by
  rw [aggregate_eq] at h
  split at h
  · exact ⟨‹_›, by cases h; rfl⟩
  · cases h

end TRV.Proofs.Multi
