import TRV.Model.Drivers
/-!
# Which decoded views a matcher accepts

Per driver an inductive predicate with one constructor per accepting arm of the Go
`handleProbeLayers`, and ONE traversal of the matcher (`*Recv_verdict`): the outcome is `retry`, or
an `accept` justified by a constructor, or `fatal` for an empty read (TCP SYN: also before the first
send), or (SACK) `notSupported` for a segment of the probed connection without SACK block.
Everything else that is said about the matchers' outcomes follows from these without unfolding a
matcher again (at the end: the credited probe is a recorded one, C05; the outcome classes of C09).  The
exception are the converses, on which a `Verdict` is silent and which walk the matcher once more:
an accepted view yields `accept` (`*Recv_of_accepts`), a `SackNoBlocks` segment `notSupported` (the
`←` of `sackRecv_notSupported_iff`).
-/
namespace TRV.Proofs
open TRV TRV.Wire TRV.Drv

theorem ne_nil_of_parse {pkt : Bytes} {n : Nat} {v : L3 × L4} (h : parse (pkt.take n) = some v) : pkt ≠ [] := by
  rintro rfl; rw [List.take_nil] at h; cases h

/-- What a matcher may answer on the read buffer `buf`: `A` justifies an `accept` of a decoded view,
    `F` a `fatal`, `N` a `notSupported` on a decoded TCP segment. -/
inductive Verdict (buf : Bytes) (A : L3 → L4 → Nat → Bool → Sent → Prop) (F : Prop)
    (N : L3 → TCP → Prop) : Out → Prop
  | retry : Verdict buf A F N .retry
  | accept {l3 : L3} {l4 : L4} {t : Nat} {d : Bool} {p : Sent} :
      parse buf = some (l3, l4) → A l3 l4 t d p → Verdict buf A F N (.accept t l3.src d p.time)
  | fatal : F → Verdict buf A F N .fatal
  | notSupported {l3 : L3} {t : TCP} :
      parse buf = some (l3, .tcp t) → N l3 t → Verdict buf A F N .notSupported

section
variable {buf : Bytes} {A : L3 → L4 → Nat → Bool → Sent → Prop} {F : Prop} {N : L3 → TCP → Prop}

/-- `ReadAndParse`'s test for a zero-length read -/
theorem Verdict.read {pkt : Bytes} {x : Out} (hF : pkt = [] → F) (h : pkt ≠ [] → Verdict buf A F N x) :
    Verdict buf A F N (if pkt.isEmpty then .fatal else x) := by
  by_cases hne : pkt = []
  · rw [hne]; exact .fatal (hF hne)
  · rw [List.isEmpty_eq_false_iff.mpr hne, if_neg Bool.false_ne_true]; exact h hne

/-- a test of the matcher (`split` on an `if` simplifies the whole goal, which is slow to check on a
    matcher) -/
theorem Verdict.ite {c : Prop} [Decidable c] {x y : Out} (hx : c → Verdict buf A F N x)
    (hy : ¬c → Verdict buf A F N y) : Verdict buf A F N (if c then x else y) := by
  by_cases hc : c
  · rw [if_pos hc]; exact hx hc
  · rw [if_neg hc]; exact hy hc

theorem Verdict.unless {c : Prop} [Decidable c] {x : Out} (h : ¬c → Verdict buf A F N x) :
    Verdict buf A F N (if c then .retry else x) :=
  .ite (fun _ => .retry) h

theorem Verdict.unless_not {c : Prop} [Decidable ¬c] {x : Out} (h : c → Verdict buf A F N x) :
    Verdict buf A F N (if ¬c then .retry else x) :=
  .unless fun hc => h (Classical.not_not.mp hc)

theorem Verdict.of_accept {t : Nat} {a : Bytes} {d : Bool} {tm : Nat}
    (h : Verdict buf A F N (.accept t a d tm)) :
    ∃ l3 l4 p, parse buf = some (l3, l4) ∧ A l3 l4 t d p ∧ a = l3.src ∧ tm = p.time := by
  cases h with
  | accept hp ha => exact ⟨_, _, _, hp, ha, rfl, rfl⟩

theorem Verdict.credit {sent : List Sent} {t : Nat} {a : Bytes} {d : Bool} {tm : Nat}
    (hA : ∀ {l3 l4 t d p}, A l3 l4 t d p → p ∈ sent ∧ p.ttl = t) (h : Verdict buf A F N (.accept t a d tm)) :
    ∃ p ∈ sent, p.ttl = t ∧ p.time = tm :=
  let ⟨_, _, p, _, hacc, _, htm⟩ := h.of_accept
  ⟨p, (hA hacc).1, (hA hacc).2, htm.symm⟩

theorem Verdict.retry_of (hA : ∀ l3 l4 t d p, parse buf = some (l3, l4) → ¬A l3 l4 t d p) (hF : ¬F)
    (hN : ∀ l3 t, parse buf = some (l3, .tcp t) → ¬N l3 t) {r : Out} (h : Verdict buf A F N r) :
    r = .retry := by
  cases h with
  | retry => rfl
  | accept hp ha => exact absurd ha (hA _ _ _ _ _ hp)
  | fatal hf => exact absurd hf hF
  | notSupported hp hn => exact absurd hn (hN _ _ hp)

theorem Verdict.not_fatal (hF : ¬F) {r : Out} (h : Verdict buf A F N r) : r ≠ .fatal := by
  rintro rfl
  cases h with
  | fatal hf => exact hF hf

theorem Verdict.not_notSupported (hN : ∀ l3 t, ¬N l3 t) {r : Out} (h : Verdict buf A F N r) :
    r ≠ .notSupported := by
  rintro rfl
  cases h with
  | notSupported _ hn => exact hN _ _ hn
end

theorem icmpLookup_some {s : IcmpSt} {seq : Nat} {p : Sent} (h : icmpLookup s seq = some p) :
    seq ≤ 255 ∧ s.cfg.min ≤ seq ∧ seq ≤ s.cfg.max ∧ s.find seq = some p := by
  unfold icmpLookup at h
  by_cases h255 : seq > 255
  · rw [if_pos h255] at h; cases h
  by_cases hr : seq < s.cfg.min ∨ seq > s.cfg.max
  · rw [if_neg h255, if_pos hr] at h; cases h
  rw [if_neg h255, if_neg hr] at h
  exact ⟨Nat.le_of_not_gt h255, Nat.le_of_not_lt fun hl => hr (Or.inl hl), Nat.le_of_not_gt fun hg => hr (Or.inr hg), h⟩

theorem parseEcho4_some {q : Bytes} {id seq : Nat} (h : parseEcho4 q = some (id, seq)) :
    ∃ ty, u8 q 0 = some ty ∧ u16 q 4 = some id ∧ u16 q 6 = some seq ∧ (ty = 8 ∨ ty = 0) := by
  unfold parseEcho4 at h
  split at h
  · rename_i ty eid eseq h1 h2 h3
    by_cases hty : ty = 8 ∨ ty = 0
    · rw [if_pos hty] at h; cases h
      exact ⟨ty, h1, h2, h3, hty⟩
    · rw [if_neg hty] at h; cases h
  · cases h

/-- the views `icmpRecv` accepts, with the credited TTL, the destination mark and the recorded probe -/
inductive IcmpAccepts (s : IcmpSt) : L3 → L4 → Nat → Bool → Sent → Prop
  | te4 {l3 : L3} {i : ICMP4} {info : ICMPInfo} {t : Nat} {p : Sent} :
      i.type = 11 → icmpInfo4 i = some info → info.qdst = s.cfg.target → info.qsrc = s.cfg.localA →
      info.proto = 1 → parseEcho4 info.payload = some (s.cfg.echoId, t) → icmpLookup s t = some p →
      IcmpAccepts s l3 (.icmp4 i) t false p
  | echo4 {l3 : L3} {i : ICMP4} {p : Sent} :
      i.type = 0 → i.id = s.cfg.echoId → l3.src = s.cfg.target → icmpLookup s i.seq = some p →
      IcmpAccepts s l3 (.icmp4 i) i.seq true p
  | te6 {l3 : L3} {i : ICMP6} {info : ICMPInfo} {t : Nat} {p : Sent} :
      i.type = 3 → icmpInfo6 i = some info → info.qdst = s.cfg.target → info.qsrc = s.cfg.localA →
      info.proto = 58 → extractEcho6 info.payload = some (s.cfg.echoId, t) → icmpLookup s t = some p →
      IcmpAccepts s l3 (.icmp6 i) t false p
  | echo6 {l3 : L3} {i : ICMP6} {t : Nat} {p : Sent} :
      i.type = 129 → u16 i.payload 0 = some s.cfg.echoId → u16 i.payload 2 = some t →
      l3.src = s.cfg.target → icmpLookup s t = some p →
      IcmpAccepts s l3 (.icmp6 i) t true p

theorem IcmpAccepts.lookup {s : IcmpSt} {l3 : L3} {l4 : L4} {t : Nat} {d : Bool} {p : Sent}
    (h : IcmpAccepts s l3 l4 t d p) : icmpLookup s t = some p := by
  cases h with
  | te4 _ _ _ _ _ _ hlk | echo4 _ _ _ hlk | te6 _ _ _ _ _ _ hlk | echo6 _ _ _ _ hlk => exact hlk

theorem icmpRecv_verdict (s : IcmpSt) (pkt : Bytes) :
    Verdict (pkt.take bufSize) (IcmpAccepts s) (pkt = []) (fun _ _ => False) (icmpRecv s pkt) := by
  unfold icmpRecv
  refine .read id fun _ => ?_
  split
  · exact .retry
  rename_i l3 l4 hp
  split
  · rename_i i
    refine .ite (fun hty => ?_) fun _ => .ite (fun hty => ?_) fun _ => .retry
    · split
      · exact .retry
      rename_i info hinfo
      refine .unless_not fun hqd => .unless_not fun hqs => .unless_not fun hpr => ?_
      split
      · exact .retry
      rename_i id seq hecho
      refine .unless_not fun hid => ?_
      split
      · exact .retry
      rename_i p hlk
      exact .accept hp (.te4 hty hinfo hqd hqs hpr (hid ▸ hecho) hlk)
    · refine .unless_not fun hid => .unless_not fun hsrc => ?_
      split
      · exact .retry
      rename_i p hlk
      exact .accept hp (.echo4 hty hid hsrc hlk)
  · rename_i i
    refine .ite (fun hty => ?_) fun _ => .ite (fun hty => ?_) fun _ => .retry
    · split
      · exact .retry
      rename_i info hinfo
      refine .unless_not fun hqd => .unless_not fun hqs => .unless_not fun hpr => ?_
      split
      · exact .retry
      rename_i id seq hecho
      refine .unless_not fun hid => ?_
      split
      · exact .retry
      rename_i p hlk
      exact .accept hp (.te6 hty hinfo hqd hqs hpr (hid ▸ hecho) hlk)
    · split
      · rename_i id seq hid hseq
        refine .unless_not fun hid' => .unless_not fun hsrc => ?_
        split
        · exact .retry
        rename_i p hlk
        exact .accept hp (.echo6 hty (hid' ▸ hid) hseq hsrc hlk)
      · exact .retry
  · exact .retry

theorem icmpRecv_of_accepts {s : IcmpSt} {pkt : Bytes} {l3 : L3} {l4 : L4} {t : Nat} {d : Bool} {p : Sent}
    (hp : parse (pkt.take bufSize) = some (l3, l4)) (h : IcmpAccepts s l3 l4 t d p) :
    icmpRecv s pkt = .accept t l3.src d p.time := by
  unfold icmpRecv
  rw [List.isEmpty_eq_false_iff.mpr (ne_nil_of_parse hp), if_neg Bool.false_ne_true, hp]
  cases h with
  | te4 hty hi hqd hqs hpr he hl => simp [hty, hi, hqd, hqs, hpr, he, hl]
  | echo4 hty hid hsrc hl => simp [hty, hid, hsrc, hl]
  | te6 hty hi hqd hqs hpr he hl => simp [hty, hi, hqd, hqs, hpr, he, hl]
  | echo6 hty hid hseq hsrc hl => simp [hty, hid, hseq, hsrc, hl]

inductive UdpAccepts (s : UdpSt) : L3 → L4 → Nat → Bool → Sent → Prop
  | err4 {l3 : L3} {i : ICMP4} {info : ICMPInfo} {sp dp : Nat} {p : Sent} :
      (i.type = 11 ∧ i.code = 0) ∨ i.type = 3 → icmpInfo4 i = some info → info.proto = 17 →
      quotedPorts info.payload = some (sp, dp) → info.qdst = s.cfg.target ∧ dp = s.cfg.tport →
      s.cfg.loosen = true ∨ (info.qsrc = s.cfg.localA ∧ sp = s.cfg.lport) →
      s.sent.find? (·.id = info.wrappedId) = some p →
      UdpAccepts s l3 (.icmp4 i) p.ttl (decide (l3.src = s.cfg.target)) p
  | err6 {l3 : L3} {i : ICMP6} {info : ICMPInfo} {sp dp : Nat} {p : Sent} :
      (i.type = 3 ∧ i.code = 0) ∨ i.type = 1 → icmpInfo6 i = some info → info.proto = 17 →
      quotedPorts info.payload = some (sp, dp) → info.qdst = s.cfg.target ∧ dp = s.cfg.tport →
      s.cfg.loosen = true ∨ (info.qsrc = s.cfg.localA ∧ sp = s.cfg.lport) →
      s.sent.find? (·.id = info.wrappedId) = some p →
      UdpAccepts s l3 (.icmp6 i) p.ttl (decide (l3.src = s.cfg.target)) p

/-- the strict-mode test of the quoted source, as the disjunction the specifications use -/
theorem loosen_or {loosen : Bool} {P : Prop} (h : ¬((!loosen) = true ∧ ¬P)) : loosen = true ∨ P := by
  cases loosen
  · exact Or.inr (Classical.not_not.mp fun hP => h ⟨rfl, hP⟩)
  · exact Or.inl rfl

theorem udpRecv_verdict (s : UdpSt) (pkt : Bytes) :
    Verdict (pkt.take bufSize) (UdpAccepts s) (pkt = []) (fun _ _ => False) (udpRecv s pkt) := by
  unfold udpRecv
  refine .read id fun _ => ?_
  split
  · exact .retry
  rename_i l3 l4 hp
  dsimp only
  split
  · exact .retry
  · exact .retry
  rename_i info hinfo
  refine .unless_not fun hpr => ?_
  split
  · exact .retry
  rename_i sp dp hq
  refine .unless_not fun hd => .unless fun hs => ?_
  split
  · exact .retry
  rename_i p hf
  -- which `GetICMPInfo` produced `info`
  cases l4 with
  | tcp t => cases hinfo
  | icmp4 i =>
    dsimp only at hinfo
    by_cases hty : (i.type = 11 ∧ i.code = 0) ∨ i.type = 3
    · rw [if_pos hty] at hinfo
      exact .accept hp (.err4 hty (Option.some.inj hinfo) hpr hq hd (loosen_or hs) hf)
    · rw [if_neg hty] at hinfo; cases hinfo
  | icmp6 i =>
    dsimp only at hinfo
    by_cases hty : (i.type = 3 ∧ i.code = 0) ∨ i.type = 1
    · rw [if_pos hty] at hinfo
      exact .accept hp (.err6 hty (Option.some.inj hinfo) hpr hq hd (loosen_or hs) hf)
    · rw [if_neg hty] at hinfo; cases hinfo

theorem udpRecv_of_accepts {s : UdpSt} {pkt : Bytes} {l3 : L3} {l4 : L4} {t : Nat} {d : Bool} {p : Sent}
    (hp : parse (pkt.take bufSize) = some (l3, l4)) (h : UdpAccepts s l3 l4 t d p) :
    udpRecv s pkt = .accept t l3.src d p.time := by
  unfold udpRecv
  rw [List.isEmpty_eq_false_iff.mpr (ne_nil_of_parse hp), if_neg Bool.false_ne_true, hp]
  cases h with
  | err4 hty hi hpr hq hd hs hf => rcases hs with hs | hs <;> simp [hty, hi, hpr, hq, hd, hs, hf]
  | err6 hty hi hpr hq hd hs hf => rcases hs with hs | hs <;> simp [hty, hi, hpr, hq, hd, hs, hf]

inductive TcpAccepts (s : TcpSt) : L3 → L4 → Nat → Bool → Sent → Prop
  | direct {l3 : L3} {t : TCP} {last : Sent} :
      (t.syn = true ∧ t.ackf = true) ∨ t.rst = true → l3.src = s.cfg.target ∧ l3.dst = s.cfg.localA →
      s.cfg.tport = t.sport → s.cfg.lport = t.dport → s.sent.getLast? = some last →
      (t.ackf = true → last.seq = (t.ack + 4294967295) % 4294967296) →
      TcpAccepts s l3 (.tcp t) last.ttl true last
  | te {l3 : L3} {i : ICMP4} {info : ICMPInfo} {sp dp sq : Nat} {p : Sent} :
      i.type = 11 ∧ i.code = 0 → icmpInfo4 i = some info → info.proto = 6 →
      quotedPorts info.payload = some (sp, dp) → quotedSeq info.payload = some sq →
      info.qdst = s.cfg.target ∧ dp = s.cfg.tport →
      s.cfg.loosen = true ∨ (info.qsrc = s.cfg.localA ∧ sp = s.cfg.lport) →
      s.sent.find? (fun x => x.id = info.wrappedId ∧ x.seq = sq) = some p →
      TcpAccepts s l3 (.icmp4 i) p.ttl false p

/-- the flag test of `tcpRecv` (SYN-ACK, RST or RST-ACK), read as a proposition -/
theorem synack_or_rst {syn ack rst : Bool} :
    ¬(!(syn && ack) && !rst && !(rst && ack)) = true ↔ (syn = true ∧ ack = true) ∨ rst = true := by
  cases syn <;> cases ack <;> cases rst <;> decide

/-- the acknowledgement test of `tcpRecv` under that flag test (`¬P`: the model's `last.seq ≠ expectedSeq`) -/
theorem ack_matches {syn ack rst : Bool} {P : Prop} [Decidable P] (hfl : (syn = true ∧ ack = true) ∨ rst = true) :
    ¬((syn && ack || rst && ack) && decide ¬P) = true ↔ (ack = true → P) := by
  cases ack
  · simp
  · rcases hfl with ⟨rfl, _⟩ | rfl <;> simp

/-- a SYN-ACK / RST on the probed tuple: the direct reply of `tcpRecv`, whatever was sent before -/
structure TcpDirectOn (s : TcpSt) (l3 : L3) (t : TCP) : Prop where
  flags : (t.syn = true ∧ t.ackf = true) ∨ t.rst = true
  src : l3.src = s.cfg.target
  dst : l3.dst = s.cfg.localA
  sport : t.sport = s.cfg.tport
  dport : t.dport = s.cfg.lport

theorem tcpRecv_verdict (s : TcpSt) (pkt : Bytes) :
    Verdict (pkt.take bufSize) (TcpAccepts s)
      (pkt = [] ∨ s.sent = [] ∧ ∃ l3 t, parse (pkt.take bufSize) = some (l3, .tcp t) ∧ TcpDirectOn s l3 t)
      (fun _ _ => False) (tcpRecv s pkt) := by
  unfold tcpRecv
  refine .read Or.inl fun _ => ?_
  split
  · exact .retry
  rename_i l3 l4 hp
  split
  · rename_i t
    refine .unless fun hfl => .unless_not fun hpair => .unless_not fun hsp => .unless_not fun hdp => ?_
    split
    · rename_i hlast
      exact .fatal (Or.inr ⟨List.getLast?_eq_none_iff.mp hlast, l3, t, hp, synack_or_rst.mp hfl, hpair.1, hpair.2, hsp.symm, hdp.symm⟩)
    rename_i last hlast
    refine .unless fun hack => ?_
    exact .accept hp (.direct (synack_or_rst.mp hfl) hpair hsp hdp hlast ((ack_matches (synack_or_rst.mp hfl)).mp hack))
  · rename_i i
    refine .unless_not fun hty => ?_
    split
    · exact .retry
    rename_i info hinfo
    refine .unless_not fun hpr => ?_
    split
    · rename_i sp dp sq hq hsq
      refine .unless_not fun hd => .unless fun hs => ?_
      split
      · exact .retry
      rename_i p hf
      exact .accept hp (.te hty hinfo hpr hq hsq hd (loosen_or hs) hf)
    · exact .retry
  · exact .retry

theorem tcpRecv_of_accepts {s : TcpSt} {pkt : Bytes} {l3 : L3} {l4 : L4} {t : Nat} {d : Bool} {p : Sent}
    (hp : parse (pkt.take bufSize) = some (l3, l4)) (h : TcpAccepts s l3 l4 t d p) :
    tcpRecv s pkt = .accept t l3.src d p.time := by
  unfold tcpRecv
  rw [List.isEmpty_eq_false_iff.mpr (ne_nil_of_parse hp), if_neg Bool.false_ne_true, hp]
  cases h with
  | direct hfl hpair hsp hdp hlast hack =>
    dsimp only
    rw [if_neg (synack_or_rst.mpr hfl), if_neg (not_not_intro hpair), if_neg (not_not_intro hsp),
      if_neg (not_not_intro hdp), hlast]
    dsimp only
    rw [if_neg ((ack_matches hfl).mpr hack)]
  | te hty hi hpr hq hsq hd hs hf =>
    simp only [hty, hi, hpr, hq, hsq, hd, hf]
    rcases hs with hs | hs <;> simp [hs]

theorem sackLookup_some {s : SackSt} {rel : Nat} {p : Sent} (h : sackLookup s rel = some p) :
    s.cfg.min ≤ rel ∧ rel ≤ s.cfg.max ∧ s.find rel = some p := by
  unfold sackLookup at h
  by_cases hr : rel < s.cfg.min ∨ rel > s.cfg.max
  · rw [if_pos hr] at h; cases h
  rw [if_neg hr] at h
  exact ⟨Nat.le_of_not_lt fun hl => hr (Or.inl hl), Nat.le_of_not_gt fun hg => hr (Or.inr hg), h⟩

inductive SackAccepts (s : SackSt) : L3 → L4 → Nat → Bool → Sent → Prop
  | direct {l3 : L3} {t : TCP} {rel : Nat} {p : Sent} :
      l3.src = s.cfg.target ∧ l3.dst = s.cfg.localA → s.cfg.tport = t.sport → s.cfg.lport = t.dport →
      t.syn = false ∧ t.fin = false ∧ t.rst = false → minSack s.cfg.isn t.opts = some rel →
      sackLookup s rel = some p → SackAccepts s l3 (.tcp t) rel true p
  | te {l3 : L3} {i : ICMP4} {info : ICMPInfo} {sp dp sq : Nat} {p : Sent} :
      i.type = 11 ∧ i.code = 0 → icmpInfo4 i = some info → info.proto = 6 →
      quotedPorts info.payload = some (sp, dp) → quotedSeq info.payload = some sq →
      info.qdst = s.cfg.target ∧ dp = s.cfg.tport →
      s.cfg.loosen = true ∨ (info.qsrc = s.cfg.localA ∧ sp = s.cfg.lport) →
      sackLookup s ((sq + 4294967296 - s.cfg.isn % 4294967296) % 4294967296) = some p →
      SackAccepts s l3 (.icmp4 i) ((sq + 4294967296 - s.cfg.isn % 4294967296) % 4294967296)
        (decide (l3.src = s.cfg.target)) p

theorem SackAccepts.lookup {s : SackSt} {l3 : L3} {l4 : L4} {t : Nat} {d : Bool} {p : Sent}
    (h : SackAccepts s l3 l4 t d p) : sackLookup s t = some p := by
  cases h with
  | direct _ _ _ _ _ hl | te _ _ _ _ _ _ _ hl => exact hl

/-- a segment of the probed connection (reversed tuple, not SYN/FIN/RST) without any SACK block -/
structure SackNoBlocks (s : SackSt) (l3 : L3) (t : TCP) : Prop where
  src : l3.src = s.cfg.target
  dst : l3.dst = s.cfg.localA
  sport : t.sport = s.cfg.tport
  dport : t.dport = s.cfg.lport
  syn : t.syn = false
  fin : t.fin = false
  rst : t.rst = false
  blocks : minSack s.cfg.isn t.opts = none

theorem or3_false {a b c : Bool} (h : ¬(a || b || c) = true) : a = false ∧ b = false ∧ c = false := by
  revert h; cases a <;> cases b <;> cases c <;> decide

theorem sackRecv_verdict (s : SackSt) (pkt : Bytes) :
    Verdict (pkt.take bufSize) (SackAccepts s) (pkt = []) (SackNoBlocks s) (sackRecv s pkt) := by
  unfold sackRecv
  refine .read id fun _ => ?_
  split
  · exact .retry
  rename_i l3 l4 hp
  split
  · rename_i t
    refine .unless_not fun hpair => .unless fun hports => .unless fun hfl => ?_
    obtain ⟨hsp, hdp⟩ := not_or.mp hports
    rw [Classical.not_not] at hsp hdp
    split
    · rename_i hm
      exact .notSupported hp ⟨hpair.1, hpair.2, hsp.symm, hdp.symm, (or3_false hfl).1, (or3_false hfl).2.1,
        (or3_false hfl).2.2, hm⟩
    rename_i rel hm
    split
    · exact .retry
    rename_i p hl
    exact .accept hp (.direct hpair hsp hdp (or3_false hfl) hm hl)
  · rename_i i
    refine .unless_not fun hty => ?_
    split
    · exact .retry
    rename_i info hinfo
    refine .unless_not fun hpr => ?_
    split
    · rename_i sp dp sq hq hsq
      refine .unless_not fun hd => .unless fun hs => ?_
      dsimp only
      split
      · exact .retry
      rename_i p hl
      exact .accept hp (.te hty hinfo hpr hq hsq hd (loosen_or hs) hl)
    · exact .retry
  · exact .retry

theorem sackRecv_of_accepts {s : SackSt} {pkt : Bytes} {l3 : L3} {l4 : L4} {t : Nat} {d : Bool} {p : Sent}
    (hp : parse (pkt.take bufSize) = some (l3, l4)) (h : SackAccepts s l3 l4 t d p) :
    sackRecv s pkt = .accept t l3.src d p.time := by
  unfold sackRecv
  rw [List.isEmpty_eq_false_iff.mpr (ne_nil_of_parse hp), if_neg Bool.false_ne_true, hp]
  cases h with
  | direct hpair hsp hdp hfl hm hl => simp [hpair, hsp, hdp, hfl, hm, hl]
  | te hty hi hpr hq hsq hd hs hl => rcases hs with hs | hs <;> simp [hty, hi, hpr, hq, hsq, hd, hs, hl]

/-! ## The credited probe is a recorded one (C05), read off the verdicts -/

theorem mem_of_find_ttl {sent : List Sent} {t : Nat} {p : Sent} (h : sent.find? (·.ttl = t) = some p) :
    p ∈ sent ∧ p.ttl = t :=
  have hp := List.find?_some h
  ⟨List.mem_of_find?_eq_some h, of_decide_eq_true hp⟩

theorem IcmpAccepts.sent {s : IcmpSt} {l3 : L3} {l4 : L4} {t : Nat} {d : Bool} {p : Sent}
    (h : IcmpAccepts s l3 l4 t d p) : p ∈ s.sent ∧ p.ttl = t :=
  let ⟨_, _, _, hf⟩ := icmpLookup_some h.lookup
  mem_of_find_ttl hf

theorem UdpAccepts.sent {s : UdpSt} {l3 : L3} {l4 : L4} {t : Nat} {d : Bool} {p : Sent}
    (h : UdpAccepts s l3 l4 t d p) : p ∈ s.sent ∧ p.ttl = t := by
  cases h with
  | err4 _ _ _ _ _ _ hf | err6 _ _ _ _ _ _ hf => exact ⟨List.mem_of_find?_eq_some hf, rfl⟩

theorem TcpAccepts.sent {s : TcpSt} {l3 : L3} {l4 : L4} {t : Nat} {d : Bool} {p : Sent}
    (h : TcpAccepts s l3 l4 t d p) : p ∈ s.sent ∧ p.ttl = t := by
  cases h with
  | direct _ _ _ _ hlast => exact ⟨List.mem_of_getLast? hlast, rfl⟩
  | te _ _ _ _ _ _ _ hf => exact ⟨List.mem_of_find?_eq_some hf, rfl⟩

theorem SackAccepts.sent {s : SackSt} {l3 : L3} {l4 : L4} {t : Nat} {d : Bool} {p : Sent}
    (h : SackAccepts s l3 l4 t d p) : p ∈ s.sent ∧ p.ttl = t :=
  let ⟨_, _, hf⟩ := sackLookup_some h.lookup
  mem_of_find_ttl hf

theorem icmpRecv_credit {s : IcmpSt} {pkt : Bytes} {t : Nat} {a : Bytes} {d : Bool} {tm : Nat}
    (h : icmpRecv s pkt = .accept t a d tm) : ∃ p ∈ s.sent, p.ttl = t ∧ p.time = tm :=
  (h ▸ icmpRecv_verdict s pkt).credit IcmpAccepts.sent

theorem udpRecv_credit {s : UdpSt} {pkt : Bytes} {t : Nat} {a : Bytes} {d : Bool} {tm : Nat}
    (h : udpRecv s pkt = .accept t a d tm) : ∃ p ∈ s.sent, p.ttl = t ∧ p.time = tm :=
  (h ▸ udpRecv_verdict s pkt).credit UdpAccepts.sent

theorem tcpRecv_credit {s : TcpSt} {pkt : Bytes} {t : Nat} {a : Bytes} {d : Bool} {tm : Nat}
    (h : tcpRecv s pkt = .accept t a d tm) : ∃ p ∈ s.sent, p.ttl = t ∧ p.time = tm :=
  (h ▸ tcpRecv_verdict s pkt).credit TcpAccepts.sent

theorem sackRecv_credit {s : SackSt} {pkt : Bytes} {t : Nat} {a : Bytes} {d : Bool} {tm : Nat}
    (h : sackRecv s pkt = .accept t a d tm) : ∃ p ∈ s.sent, p.ttl = t ∧ p.time = tm :=
  (h ▸ sackRecv_verdict s pkt).credit SackAccepts.sent

/-! ## Outcome classes (C09), read off the verdicts -/

theorem Out.eq_retry {r : Out} (hf : r ≠ .fatal) (hn : r ≠ .notSupported)
    (ha : ∀ t a d tm, r ≠ .accept t a d tm) : r = .retry := by
  cases r with
  | retry => rfl
  | fatal => exact absurd rfl hf
  | notSupported => exact absurd rfl hn
  | accept t a d tm => exact absurd rfl (ha t a d tm)

theorem icmpRecv_class (s : IcmpSt) (pkt : Bytes) (h : pkt ≠ []) :
    icmpRecv s pkt ≠ .fatal ∧ icmpRecv s pkt ≠ .notSupported :=
  ⟨(icmpRecv_verdict s pkt).not_fatal h, (icmpRecv_verdict s pkt).not_notSupported fun _ _ => id⟩

theorem udpRecv_class (s : UdpSt) (pkt : Bytes) (h : pkt ≠ []) :
    udpRecv s pkt ≠ .fatal ∧ udpRecv s pkt ≠ .notSupported :=
  ⟨(udpRecv_verdict s pkt).not_fatal h, (udpRecv_verdict s pkt).not_notSupported fun _ _ => id⟩

theorem tcpRecv_class (s : TcpSt) (pkt : Bytes) (h : pkt ≠ []) :
    tcpRecv s pkt ≠ .notSupported ∧ (s.sent ≠ [] → tcpRecv s pkt ≠ .fatal) :=
  ⟨(tcpRecv_verdict s pkt).not_notSupported fun _ _ => id,
   fun hs => (tcpRecv_verdict s pkt).not_fatal fun hf => hf.elim h fun hf => hs hf.1⟩

theorem sackRecv_class (s : SackSt) (pkt : Bytes) (h : pkt ≠ []) : sackRecv s pkt ≠ .fatal :=
  (sackRecv_verdict s pkt).not_fatal h

theorem sackRecv_notSupported_iff (s : SackSt) (pkt : Bytes) :
    sackRecv s pkt = .notSupported ↔ ∃ l3 t, parse (pkt.take bufSize) = some (l3, .tcp t) ∧ SackNoBlocks s l3 t := by
  constructor
  · intro hr
    cases hr ▸ sackRecv_verdict s pkt with
    | notSupported hp hn => exact ⟨_, _, hp, hn⟩
  · rintro ⟨l3, t, hp, h⟩
    simp [sackRecv, List.isEmpty_eq_false_iff.mpr (ne_nil_of_parse hp), hp, h.src, h.dst, h.sport, h.dport, h.syn, h.fin,
      h.rst, h.blocks]

end TRV.Proofs
