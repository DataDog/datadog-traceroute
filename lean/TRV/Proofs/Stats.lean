import TRV.Spec.Result
/-!
# The statistics of `Normalize` (C16) over core `Rat`

Two general facts: `foldl_pick` for every running minimum/maximum of the model (`stepMin`, `stepMax`,
`stepMinR`, `stepMaxR`) and `avg_bounds` for every mean (no Mathlib: `grind` does the ordered-field
steps).  `nE_eq` is `normalizeE2eProbe` as one equation; `hopCount_stats` is what
`normalizeTracerouteHopsCount` computes.  `FreshE2e.sent` … `FreshE2e.max` name the seven conjuncts of the
specification's `FreshE2e`.  The namespace is `TRV.Proofs.Result`, shared with `Proofs/NetIP.lean`
and `Proofs/Result.lean`.
-/
namespace TRV.ResSpec.FreshE2e
variable {e : Result.E2e}
theorem sent (h : FreshE2e e) : e.sent = 0 := h.1
theorem received (h : FreshE2e e) : e.received = 0 := h.2.1
theorem loss (h : FreshE2e e) : e.loss = 0 := h.2.2.1
theorem jitter (h : FreshE2e e) : e.jitter = 0 := h.2.2.2.1
theorem avg (h : FreshE2e e) : e.avg = 0 := h.2.2.2.2.1
theorem min (h : FreshE2e e) : e.min = 0 := h.2.2.2.2.2.1
theorem max (h : FreshE2e e) : e.max = 0 := h.2.2.2.2.2.2
end TRV.ResSpec.FreshE2e

namespace TRV.Proofs.Result
open TRV TRV.Result TRV.ResSpec

/-- A fold whose step keeps one of its two arguments, one that is `R`-before both, ends on a member of what
    it has seen that is `R`-before all of it.  `P` is what the step needs of its arguments: the
    `hopsMin == 0` idiom is a minimum on positive counts only. -/
theorem foldl_pick {α} (P : α → Prop) (R : α → α → Prop) (f : α → α → α)
    (hrefl : ∀ a, R a a) (htrans : ∀ {a b c}, R a b → R b c → R a c)
    (hf : ∀ a x, P a → P x → (f a x = a ∨ f a x = x) ∧ R (f a x) a ∧ R (f a x) x)
    (l : List α) (a : α) (ha : P a) (hl : ∀ x ∈ l, P x) :
    l.foldl f a ∈ a :: l ∧ ∀ x ∈ a :: l, R (l.foldl f a) x := by
  induction l generalizing a with
  | nil => simp [hrefl]
  | cons c t ih =>
    obtain ⟨hsel, ra, rc⟩ := hf a c ha (hl c (by simp))
    have hP : P (f a c) := by rcases hsel with e | e <;> rw [e] <;> simp [ha, hl]
    obtain ⟨hm, hb⟩ := ih (f a c) hP (fun x hx => hl x (by simp [hx]))
    have hfa := hb (f a c) (by simp)
    rw [List.foldl_cons]
    constructor
    · rcases List.mem_cons.mp hm with e | e
      · rw [e]; rcases hsel with e' | e' <;> simp [e']
      · simp [e]
    · intro x hx
      rcases List.mem_cons.mp hx with rfl | hx
      · exact htrans hfa ra
      · rcases List.mem_cons.mp hx with rfl | hx
        · exact htrans hfa rc
        · exact hb x (by simp [hx])

theorem sum_ge (xs : List Rat) (m : Rat) (h : ∀ x ∈ xs, m ≤ x) : (xs.length : Rat) * m ≤ xs.sum := by
  induction xs with
  | nil => simp
  | cons x xs ih =>
    have h1 : m ≤ x := h x (by simp)
    have h2 := ih (fun y hy => h y (by simp [hy]))
    simp only [List.length_cons, List.sum_cons, Rat.natCast_add]
    grind

theorem sum_le (xs : List Rat) (M : Rat) (h : ∀ x ∈ xs, x ≤ M) : xs.sum ≤ (xs.length : Rat) * M := by
  induction xs with
  | nil => simp
  | cons x xs ih =>
    have h1 : x ≤ M := h x (by simp)
    have h2 := ih (fun y hy => h y (by simp [hy]))
    simp only [List.length_cons, List.sum_cons, Rat.natCast_add]
    grind

theorem avg_bounds (xs : List Rat) (m M : Rat) (hne : xs ≠ [])
    (hm : ∀ x ∈ xs, m ≤ x) (hM : ∀ x ∈ xs, x ≤ M) :
    m ≤ xs.sum / xs.length ∧ xs.sum / xs.length ≤ M := by
  have hpos : (0 : Rat) < xs.length := Rat.natCast_pos.mpr (List.length_pos_iff.mpr hne)
  have h1 := sum_ge xs m hm
  have h2 := sum_le xs M hM
  have key : (xs.length : Rat) * (xs.sum / xs.length) = xs.sum := by
    rw [Rat.mul_comm, Rat.div_mul_cancel (Rat.ne_of_gt hpos)]
  constructor
  · apply Rat.le_of_mul_le_mul_left (c := (xs.length : Rat)) _ hpos
    rw [key]; exact h1
  · apply Rat.le_of_mul_le_mul_left (c := (xs.length : Rat)) _ hpos
    rw [key]; exact h2

theorem natCast_sum (cs : List Nat) : ((cs.sum : Nat) : Rat) = (cs.map (fun (c : Nat) => (c : Rat))).sum := by
  induction cs with
  | nil => simp
  | cons c t ih => simp [Rat.natCast_add, ih]

theorem min_fold_spec (v0 : Rat) (t : List Rat) :
    (v0 :: t).foldl stepMinR v0 ∈ v0 :: t ∧ ∀ x ∈ v0 :: t, (v0 :: t).foldl stepMinR v0 ≤ x := by
  have e : (v0 :: t).foldl stepMinR v0 = t.foldl stepMinR v0 := by simp [stepMinR, Rat.lt_irrefl]
  rw [e]
  exact foldl_pick (fun _ => True) (· ≤ ·) stepMinR (fun _ => Rat.le_refl) Rat.le_trans
    (fun a x _ _ => by unfold stepMinR; split <;> grind) t v0 trivial (fun _ _ => trivial)

theorem max_fold_spec (v0 : Rat) (t : List Rat) :
    (v0 :: t).foldl stepMaxR v0 ∈ v0 :: t ∧ ∀ x ∈ v0 :: t, x ≤ (v0 :: t).foldl stepMaxR v0 := by
  have e : (v0 :: t).foldl stepMaxR v0 = t.foldl stepMaxR v0 := by simp [stepMaxR, Rat.lt_irrefl]
  rw [e]
  exact foldl_pick (fun _ => True) (· ≥ ·) stepMaxR (fun _ => Rat.le_refl) (fun h1 h2 => Rat.le_trans h2 h1)
    (fun a x _ _ => by unfold stepMaxR; split <;> grind) t v0 trivial (fun _ _ => trivial)

theorem absR_nonneg (x : Rat) : 0 ≤ absR x := by unfold absR; split <;> grind

theorem absR_sub_le {a b m M : Rat} (ha : m ≤ a ∧ a ≤ M) (hb : m ≤ b ∧ b ≤ M) : absR (b - a) ≤ M - m := by
  unfold absR; split <;> grind

theorem absDiffs_length (l : List Rat) : (absDiffs l).length = l.length - 1 := by
  induction l with
  | nil => simp [absDiffs]
  | cons a t ih =>
    cases t with
    | nil => simp [absDiffs]
    | cons b t' => simp [absDiffs] at ih ⊢; omega

theorem absDiffs_bounds (l : List Rat) (m M : Rat) (h : ∀ x ∈ l, m ≤ x ∧ x ≤ M) :
    ∀ d ∈ absDiffs l, 0 ≤ d ∧ d ≤ M - m := by
  induction l with
  | nil => simp [absDiffs]
  | cons a t ih =>
    cases t with
    | nil => simp [absDiffs]
    | cons b t' =>
      intro d hd
      simp only [absDiffs, List.mem_cons] at hd
      rcases hd with hd | hd
      · subst hd
        exact ⟨absR_nonneg _, absR_sub_le (h a (by simp)) (h b (by simp))⟩
      · exact ih (fun x hx => h x (by simp [hx])) d hd

theorem jitter_bounds {l : List Rat} {m M : Rat} (h : ∀ x ∈ l, m ≤ x ∧ x ≤ M) (hmM : m ≤ M) :
    0 ≤ calculateJitter l ∧ calculateJitter l ≤ M - m := by
  unfold calculateJitter
  by_cases h2 : l.length < 2
  · rw [if_pos h2]; exact ⟨Rat.le_refl, (Rat.le_iff_sub_nonneg m M).mp hmM⟩
  · have hne : absDiffs l ≠ [] := List.ne_nil_of_length_pos (by rw [absDiffs_length]; omega)
    have hb := absDiffs_bounds l m M h
    rw [if_neg h2, ← List.sum_eq_foldl, ← absDiffs_length]
    exact avg_bounds (absDiffs l) 0 (M - m) hne (fun d hd => (hb d hd).1) (fun d hd => (hb d hd).2)

theorem validRTTs_eq (l : List Rat) : validRTTs l = positives l := rfl

theorem calculateJitter_nil : calculateJitter [] = 0 := by simp [calculateJitter]

theorem nE_empty (e : E2e) (h : e.rtts = []) : normalizeE2eProbe e = e := by
  unfold normalizeE2eProbe; simp [h]

/-- On a non-empty sample list the packet fields and the jitter are always written, the three statistics
    only when there is a positive sample (`validRTTs` is `positives`). -/
theorem nE_eq (e : E2e) (h : e.rtts ≠ []) :
    normalizeE2eProbe e =
      let v := positives e.rtts
      let e' : E2e := match v with
        | [] => e
        | v0 :: _ => { e with avg := v.foldl (· + ·) 0 / (v.length : Rat), min := v.foldl stepMinR v0,
                              max := v.foldl stepMaxR v0 }
      { e' with rtts := e.rtts, sent := e.rtts.length, received := v.length,
                loss := ((e.rtts.length - v.length : Nat) : Rat) / (e.rtts.length : Rat),
                jitter := calculateJitter v } := by
  have hpos : e.rtts.length > 0 := List.length_pos_iff.mpr h
  unfold normalizeE2eProbe
  rw [if_neg (by omega), validRTTs_eq]
  simp only [hpos, if_true]
  cases positives e.rtts <;> rfl

theorem nE_rtts (e : E2e) : (normalizeE2eProbe e).rtts = e.rtts := by
  by_cases h : e.rtts = []
  · rw [nE_empty e h]
  · rw [nE_eq e h]

theorem rtts_ne_nil {e : E2e} (h : positives e.rtts ≠ []) : e.rtts ≠ [] :=
  fun h0 => h (by rw [h0]; rfl)

theorem natCast_sub_of_le (a b : Nat) (h : b ≤ a) : ((a - b : Nat) : Rat) = (a : Rat) - (b : Rat) := by
  have : ((a - b : Nat) : Rat) + (b : Rat) = (a : Rat) := by rw [← Rat.natCast_add, Nat.sub_add_cancel h]
  grind

theorem packets_nonempty (e : E2e) (h : e.rtts ≠ []) : PacketsOK (normalizeE2eProbe e) := by
  have hpos : 0 < e.rtts.length := List.length_pos_iff.mpr h
  have hle : (positives e.rtts).length ≤ e.rtts.length := List.length_filter_le _ _
  rw [nE_eq e h]
  refine ⟨rfl, rfl, fun h0 => ?_, fun _ => ?_⟩
  · have : e.rtts.length = 0 := h0
    omega
  · exact congrArg (· / (e.rtts.length : Rat)) (natCast_sub_of_le _ _ hle)

theorem packets_fresh (e : E2e) (hf : FreshE2e e) : PacketsOK (normalizeE2eProbe e) := by
  by_cases h : e.rtts = []
  · rw [nE_empty e h]
    refine ⟨?_, ?_, fun _ => hf.loss, fun hs => absurd hf.sent hs⟩
    · unfold SentOK; rw [hf.sent, h]; rfl
    · unfold ReceivedOK; rw [hf.received, h]; rfl
  · exact packets_nonempty e h

/-- with a positive sample: `RttOrder`, what `RttExtremes` and `RttMean` conclude, over the samples handed in, and `JitterBounds` -/
theorem rtt_some (e : E2e) (h : positives e.rtts ≠ []) :
    let n := normalizeE2eProbe e
    let v := positives e.rtts
    RttOrder n ∧ (n.min ∈ v ∧ (∀ x ∈ v, n.min ≤ x) ∧ n.max ∈ v ∧ ∀ x ∈ v, x ≤ n.max) ∧
    n.avg * (v.length : Rat) = v.sum ∧ JitterBounds n := by
  rw [nE_eq e (rtts_ne_nil h)]
  cases hp : positives e.rtts with
  | nil => exact absurd hp h
  | cons v0 t =>
    have hmin := min_fold_spec v0 t
    have hmax := max_fold_spec v0 t
    have hab := avg_bounds (v0 :: t) _ _ (by simp) hmin.2 hmax.2
    have hlen : ((v0 :: t).length : Rat) ≠ 0 := Rat.ne_of_gt (Rat.natCast_pos.mpr (by simp))
    simp only [RttOrder, ← List.sum_eq_foldl]
    exact ⟨hab, ⟨hmin.1, hmin.2, hmax.1, hmax.2⟩, Rat.div_mul_cancel hlen,
      jitter_bounds (fun x hx => ⟨hmin.2 x hx, hmax.2 x hx⟩) (hmin.2 _ hmax.1)⟩

/-- with no positive sample a fresh probe keeps its three zeros and gets jitter 0 -/
theorem rtt_jitter_fresh (e : E2e) (hf : FreshE2e e) :
    RttOrder (normalizeE2eProbe e) ∧ JitterBounds (normalizeE2eProbe e) := by
  by_cases hp : positives e.rtts = []
  · have hz : (normalizeE2eProbe e).jitter = 0 ∧ (normalizeE2eProbe e).avg = 0 ∧
        (normalizeE2eProbe e).min = 0 ∧ (normalizeE2eProbe e).max = 0 := by
      by_cases h : e.rtts = []
      · rw [nE_empty e h]; exact ⟨hf.jitter, hf.avg, hf.min, hf.max⟩
      · rw [nE_eq e h]; simp only [hp]; exact ⟨calculateJitter_nil, hf.avg, hf.min, hf.max⟩
    obtain ⟨z1, z2, z3, z4⟩ := hz
    unfold RttOrder JitterBounds
    rw [z1, z2, z3, z4]; grind
  · exact ⟨(rtt_some e hp).1, (rtt_some e hp).2.2.2⟩

theorem extreme_unique {R : Rat → Rat → Prop} (anti : ∀ {a b}, R a b → R b a → a = b) {l₁ l₂ : List Rat}
    (hmem : ∀ x, x ∈ l₁ ↔ x ∈ l₂) {a b : Rat}
    (ha : a ∈ l₁ ∧ ∀ x ∈ l₁, R a x) (hb : b ∈ l₂ ∧ ∀ x ∈ l₂, R b x) : a = b :=
  anti (ha.2 b ((hmem b).mpr hb.1)) (hb.2 a ((hmem a).mp ha.1))

theorem perm_invariant (e₁ e₂ : E2e) (p : e₁.rtts.Perm e₂.rtts)
    (hprior : e₁.sent = e₂.sent ∧ e₁.received = e₂.received ∧ e₁.loss = e₂.loss ∧
      e₁.min = e₂.min ∧ e₁.avg = e₂.avg ∧ e₁.max = e₂.max) :
    let n₁ := normalizeE2eProbe e₁
    let n₂ := normalizeE2eProbe e₂
    n₁.sent = n₂.sent ∧ n₁.received = n₂.received ∧ n₁.loss = n₂.loss ∧
    n₁.min = n₂.min ∧ n₁.avg = n₂.avg ∧ n₁.max = n₂.max := by
  intro n₁ n₂
  by_cases h1 : e₁.rtts = []
  · have h2 : e₂.rtts = [] := by rw [h1] at p; exact List.nil_perm.mp p
    simp only [n₁, n₂, nE_empty e₁ h1, nE_empty e₂ h2]
    exact hprior
  · have h2 : e₂.rtts ≠ [] := fun h0 => h1 (List.perm_nil.mp (h0 ▸ p))
    have pv : (positives e₁.rtts).Perm (positives e₂.rtts) := p.filter _
    simp only [n₁, n₂, nE_eq e₁ h1, nE_eq e₂ h2, p.length_eq, pv.length_eq, true_and]
    -- what is left are the three statistics: kept, or those of two permutations of one list
    cases hv1 : positives e₁.rtts with
    | nil =>
      rw [hv1] at pv
      rw [List.nil_perm.mp pv]
      exact hprior.2.2.2
    | cons v0 t =>
      cases hv2 : positives e₂.rtts with
      | nil => rw [hv1, hv2] at pv; exact absurd (List.perm_nil.mp pv) (by simp)
      | cons w0 u =>
        rw [hv1, hv2] at pv
        have hmem : ∀ x, x ∈ v0 :: t ↔ x ∈ w0 :: u := fun x => pv.mem_iff
        refine ⟨extreme_unique Rat.le_antisymm hmem (min_fold_spec v0 t) (min_fold_spec w0 u), ?_,
          extreme_unique (fun h1 h2 => Rat.le_antisymm h2 h1) hmem (max_fold_spec v0 t) (max_fold_spec w0 u)⟩
        -- the mean: the sum does not depend on the order, `z + x + y = z + y + x`
        rw [pv.foldl_eq' (fun x _ y _ z => by grind)]

theorem scanBack_bounds (l : List Hop) (n : Nat) (h : scanBack l = some n) : 1 ≤ n ∧ n ≤ l.length := by
  induction l with
  | nil => simp [scanBack] at h
  | cons a t ih =>
    unfold scanBack at h
    split at h
    · simp at h; subst h; simp
    · have := ih h; simp; omega

theorem hopCountOf_bounds (hops : List Hop) (hne : hops ≠ []) :
    1 ≤ hopCountOf hops ∧ hopCountOf hops ≤ hops.length := by
  have hpos := List.length_pos_iff.mpr hne
  unfold hopCountOf
  cases h : scanBack hops.reverse with
  | none => simp; omega
  | some n => have := scanBack_bounds _ _ h; simp at this ⊢; omega

theorem hopsMin_spec (cs : List Nat) (hne : cs ≠ []) (hpos : ∀ c ∈ cs, 1 ≤ c) :
    hopsMin cs ∈ cs ∧ ∀ c ∈ cs, hopsMin cs ≤ c := by
  match cs, hne with
  | c :: t, _ =>
    have e : hopsMin (c :: t) = t.foldl stepMin c := by simp [hopsMin, stepMin]
    rw [e]
    exact foldl_pick (1 ≤ ·) (· ≤ ·) stepMin Nat.le_refl Nat.le_trans
      (fun a x ha hx => by unfold stepMin; split <;> omega) t c (hpos c (by simp))
      (fun x hx => hpos x (by simp [hx]))

theorem hopsMax_spec (cs : List Nat) (hne : cs ≠ []) :
    hopsMax cs ∈ cs ∧ ∀ c ∈ cs, c ≤ hopsMax cs := by
  match cs, hne with
  | c :: t, _ =>
    have e : hopsMax (c :: t) = t.foldl stepMax c := by
      have : stepMax 0 c = c := by unfold stepMax; split <;> omega
      rw [hopsMax, List.foldl_cons, this]
    rw [e]
    exact foldl_pick (fun _ => True) (· ≥ ·) stepMax Nat.le_refl (fun h1 h2 => Nat.le_trans h2 h1)
      (fun a x _ _ => by unfold stepMax; split <;> omega) t c trivial (fun _ _ => trivial)

theorem longestRun_ge {rs : List Run} {r : Run} (h : r ∈ rs) : r.hops.length ≤ longestRun rs := by
  induction rs with
  | nil => simp at h
  | cons a t ih =>
    simp only [List.mem_cons] at h
    unfold longestRun
    rcases h with h | h
    · subst h; omega
    · have := ih h; omega

theorem hopCounts_bounds (rs : List Run) (h1 : ∀ r ∈ rs, r.hops ≠ []) :
    ∀ c ∈ hopCounts rs, 1 ≤ c ∧ c ≤ longestRun rs := by
  intro c hc
  obtain ⟨r, hr, rfl⟩ := List.mem_map.mp hc
  have hc := hopCountOf_bounds _ (h1 r hr)
  exact ⟨hc.1, Nat.le_trans hc.2 (longestRun_ge hr)⟩

/-- what `normalizeTracerouteHopsCount` computes from runs that all have a hop (so that every count is ≥ 1
    and the `hopsMin == 0` loop is a minimum) -/
theorem hopCount_stats (rs : List Run) (hne : rs ≠ []) (h1 : ∀ r ∈ rs, r.hops ≠ []) :
    let cs := hopCounts rs
    1 ≤ hopsMin cs ∧ (hopsMin cs : Rat) ≤ (hopsTotal cs : Rat) / (cs.length : Rat) ∧
    (hopsTotal cs : Rat) / (cs.length : Rat) ≤ (hopsMax cs : Rat) ∧ hopsMax cs ≤ longestRun rs := by
  intro cs
  have hb := hopCounts_bounds rs h1
  have hcs : cs ≠ [] := by simpa [cs, hopCounts] using hne
  obtain ⟨m1, m2⟩ := hopsMin_spec cs hcs (fun c hc => (hb c hc).1)
  obtain ⟨x1, x2⟩ := hopsMax_spec cs hcs
  have hab := avg_bounds (cs.map (fun (c : Nat) => (c : Rat))) (hopsMin cs : Rat) (hopsMax cs : Rat)
    (by simpa using hcs)
    (by intro x hx; obtain ⟨c, hc, rfl⟩ := List.mem_map.mp hx; exact Rat.natCast_le_natCast.mpr (m2 c hc))
    (by intro x hx; obtain ⟨c, hc, rfl⟩ := List.mem_map.mp hx; exact Rat.natCast_le_natCast.mpr (x2 c hc))
  rw [← natCast_sum, List.length_map] at hab
  rw [show hopsTotal cs = cs.sum from List.sum_eq_foldl.symm]
  exact ⟨(hb _ m1).1, hab.1, hab.2, (hb _ x1).2⟩

end TRV.Proofs.Result
