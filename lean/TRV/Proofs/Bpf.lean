import TRV.Model.Bpf
/-!
# Helper lemmas for the capture-filter proofs (C12)

* `load` at the three sizes the filters use is the shared `u8/u16/u32` field reader;
* `exec_cons`: what `exec` does with the first instruction, so that a concrete program is evaluated
  to its decision tree by rewriting;
* the `jset` masks of the filters as arithmetic (`&&& 0x1fff` = `% 8192`, `&&& 2^i ≠ 0` = `testBit i`);
* the indirect-load offsets `X + k` with `X = 4·IHL` rewritten to the spec's `14 + 4·IHL + …`.
-/
namespace TRV.Proofs.Bpf
open TRV TRV.Bpf

@[simp] theorem load_one (p : Bytes) (o : Nat) : load p o 1 = u8 p o := by simp [load]
@[simp] theorem load_two (p : Bytes) (o : Nat) : load p o 2 = u16 p o := by simp [load]
@[simp] theorem load_four (p : Bytes) (o : Nat) : load p o 4 = u32 p o := by simp [load]

/-- What `exec` does with the first instruction, read for `exec … != 0`, which is all `accepts`
    asks of the verdict.  Rewriting a concrete program with it (and `List.drop_succ_cons`,
    `List.drop_zero` for the jumps) turns `accepts p f` into the program's decision tree: a `match`
    on each load, a `bif` on each jump, `k != 0` with the literal `k` at each `ret k` (left for the closing
    `simp` to decide). -/
theorem exec_cons (pkt : Bytes) (i : Instr) (rest : List Instr) (s : St) :
    (exec pkt (i :: rest) s != 0) =
      match i with
      | .ldAbs sz off =>
        (match load pkt off sz with
         | none => false
         | some v => exec pkt rest { s with a := v } != 0)
      | .ldInd sz off =>
        (match load pkt (s.x + off) sz with
         | none => false
         | some v => exec pkt rest { s with a := v } != 0)
      | .ldxMsh off =>
        (match load pkt off 1 with
         | none => false
         | some v => exec pkt rest { s with x := 4 * (v % 16) } != 0)
      | .jeq k jt jf => bif s.a == k then exec pkt (rest.drop jt) s != 0 else exec pkt (rest.drop jf) s != 0
      | .jset k jt jf => bif s.a &&& k != 0 then exec pkt (rest.drop jt) s != 0 else exec pkt (rest.drop jf) s != 0
      | .ret k => k != 0 := by
  cases i <;> simp only [exec]
  case ldAbs sz off => cases load pkt off sz <;> rfl
  case ldInd sz off => cases load pkt (s.x + off) sz <;> rfl
  case ldxMsh off => cases load pkt off 1 <;> rfl
  case jeq k jt jf => cases h : s.a == k <;> simp_all
  case jset k jt jf => cases h : s.a &&& k != 0 <;> simp_all

/-- the fragment-offset mask -/
theorem and_1fff (w : Nat) : w &&& 0x1fff = w % 8192 := Nat.and_two_pow_sub_one_eq_mod w 13

theorem and_two_pow_bne_zero (w i : Nat) : (w &&& 2^i != 0) = w.testBit i := by
  cases hb : w.testBit i
  · have : w &&& 2^i = 0 := by
      apply Nat.eq_of_testBit_eq; intro j
      by_cases hj : i = j
      · subst hj; simp [Nat.testBit_and, hb]
      · simp [Nat.testBit_and, hj]
    simp [this]
  · have : (w &&& 2^i).testBit i = true := by simp [Nat.testBit_and, hb]
    cases h0 : w &&& 2^i != 0
    · simp at h0; simp [h0] at this
    · rfl

/-- `ldb [x+27]` with `x = 4·IHL` is the TCP flag byte at `14 + 4·IHL + 13` -/
theorem off27 (n : Nat) : 4 * n + 27 = 14 + 4 * n + 13 := by omega
/-- `ldh [x+14]`: source port at `14 + 4·IHL` -/
theorem off14 (n : Nat) : 4 * n + 14 = 14 + 4 * n := Nat.add_comm ..
/-- `ldh [x+16]`: destination port at `14 + 4·IHL + 2` -/
theorem off16 (n : Nat) : 4 * n + 16 = 14 + 4 * n + 2 := by omega

end TRV.Proofs.Bpf
