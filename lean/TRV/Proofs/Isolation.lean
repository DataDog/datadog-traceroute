import TRV.Spec.Alloc
import TRV.Proofs.CrossProto
import TRV.Proofs.MinSack
/-!
# Isolation of concurrent runs of one protocol (C11)

On the raw-offset genuineness predicates: two runs that both own a packet read the same bytes, so
they agree on every identifying field, which contradicts `FlowsDistinct…`.  IPv4 first, then the
same argument on `view6` / `quote6`.
-/
namespace TRV.Proofs
open TRV TRV.Spec TRV.Drv TRV.Wire

/-- Two runs that both find their flow in the quoted datagram (destination `qd:dp`, source `qs:sp`,
    the source only compared by a strict run) have the same target and, if both are strict, the
    same local end; of the ways their flows may differ only the last, `X`, is left. -/
theorem quoted_clash {qs qd ta tb la lb : Bytes} {sp dp pa pb lpa lpb : Nat} {loA loB : Bool} {X : Prop}
    (hqd : qd = ta) (hdp : dp = pa) (hl : loA = true ∨ qs = la ∧ sp = lpa)
    (hqd' : qd = tb) (hdp' : dp = pb) (hl' : loB = true ∨ qs = lb ∧ sp = lpb)
    (hd : TargetDiff ta pa tb pb ∨ LocalDiff la lpa lb lpb ∧ ((loA = false ∧ loB = false) ∨ X)) : X := by
  rcases hd with (hd | hd) | ⟨hld, ⟨sa, sb⟩ | hx⟩
  · exact absurd (hqd.symm.trans hqd') hd
  · exact absurd (hdp.symm.trans hdp') hd
  · obtain ⟨h1, h2⟩ := hl.resolve_left (sa ▸ Bool.false_ne_true)
    obtain ⟨h1', h2'⟩ := hl'.resolve_left (sb ▸ Bool.false_ne_true)
    rcases hld with hd | hd
    · exact absurd (h1.symm.trans h1') hd
    · exact absurd (h2.symm.trans h2') hd
  · exact hx

theorem direct_clash {p ta la tb lb : Bytes} {pa lpa pb lpb : Nat} {X : Prop} (h : SigTcpOn p ta pa la lpa)
    (h' : SigTcpOn p tb pb lb lpb) (hd : TargetDiff ta pa tb pb ∨ LocalDiff la lpa lb lpb ∧ X) : False := by
  obtain ⟨v, hv, hp, _, _, rfl, rfl⟩ := h
  obtain ⟨v', hv', hp', _, _, rfl, rfl⟩ := h'
  cases hv.symm.trans hv'
  cases hp.symm.trans hp'
  rcases hd with (hd | hd) | ⟨hd | hd, _⟩ <;> exact hd rfl

theorem isolation_icmp4 {A B : IcmpCfg} {sA sB : List Sent} {t t' : Nat} {a a' : Bytes} {d d' : Bool} {p : Bytes}
    (hd : FlowsDistinctIcmp A B) (hA : genuineIcmp4 A sA t a d p = true) :
    genuineIcmp4 B sB t' a' d' p = false := by
  refine Bool.eq_false_iff.mpr fun hB => ?_
  cases d <;> cases d'
  · obtain ⟨v, q, ety, eid, eseq, g⟩ := genuineIcmp4TE_iff.mp hA
    obtain ⟨v', q', ety', eid', eseq', g'⟩ := genuineIcmp4TE_iff.mp hB
    cases g.view.symm.trans g'.view
    cases g.quote.symm.trans g'.quote
    cases g.rId.symm.trans g'.rId
    exact hd.elim (· (g.id.symm.trans g'.id)) (· (g.qdst.symm.trans g'.qdst))
  · exact sigQuoted_not_echo (sig_icmp4TE hA) (sig_icmp4Echo hB)
  · exact sigQuoted_not_echo (sig_icmp4TE hB) (sig_icmp4Echo hA)
  · obtain ⟨v, ty, eid, eseq, g⟩ := genuineIcmp4Echo_iff.mp hA
    obtain ⟨v', ty', eid', eseq', g'⟩ := genuineIcmp4Echo_iff.mp hB
    cases g.view.symm.trans g'.view
    cases g.rId.symm.trans g'.rId
    exact hd.elim (· (g.id.symm.trans g'.id)) (· ((g.src.trans g.target).symm.trans (g'.src.trans g'.target)))

theorem isolation_udp4 {A B : UdpCfg} {sA sB : List Sent} {t t' : Nat} {a a' : Bytes} {d d' : Bool} {p : Bytes}
    (hd : FlowsDistinctUdp A B) (hA : genuineUdp4 A sA t a d p = true) :
    genuineUdp4 B sB t' a' d' p = false := by
  refine Bool.eq_false_iff.mpr fun hB => ?_
  obtain ⟨v, q, sp, dp, g⟩ := genuineUdp4_iff.mp hA
  obtain ⟨v', q', sp', dp', g'⟩ := genuineUdp4_iff.mp hB
  cases g.view.symm.trans g'.view
  cases g.quote.symm.trans g'.quote
  cases g.ports.symm.trans g'.ports
  exact quoted_clash g.qdst g.dport g.strict g'.qdst g'.dport g'.strict
    (hd.imp_right fun ⟨sa, sb, hld⟩ => ⟨hld, Or.inl ⟨sa, sb⟩⟩)

theorem isolation_tcp {A B : TcpCfg} {sA sB : List Sent} {t t' : Nat} {a a' : Bytes} {d d' : Bool} {p : Bytes}
    (hd : FlowsDistinctTcp A B sA sB) (hA : genuineTcp A sA t a d p = true) :
    genuineTcp B sB t' a' d' p = false := by
  refine Bool.eq_false_iff.mpr fun hB => ?_
  cases d <;> cases d'
  · obtain ⟨v, q, sp, dp, sq, g⟩ := genuineTcpQuoted_iff.mp hA
    obtain ⟨v', q', sp', dp', sq', g'⟩ := genuineTcpQuoted_iff.mp hB
    cases g.view.symm.trans g'.view
    cases g.quote.symm.trans g'.quote
    cases g.ports.symm.trans g'.ports
    cases g.qseq.symm.trans g'.qseq
    obtain ⟨x, hx, hxt, hxi, hxs⟩ := g.sent
    obtain ⟨y, hy, hyt, hyi, hys⟩ := g'.sent
    exact quoted_clash g.qdst g.dport g.strict g'.qdst g'.dport g'.strict hd x hx y hy
      ⟨hxi.trans hyi.symm, hxs.trans hys.symm⟩
  · exact sigQuoted_not_tcp (sig_tcpQuoted hA) (sig_tcpDirect hB).sigTcp
  · exact sigQuoted_not_tcp (sig_tcpQuoted hB) (sig_tcpDirect hA).sigTcp
  · exact direct_clash (sig_tcpDirect hA) (sig_tcpDirect hB) hd

theorem isolation_sack {A B : SackCfg} {sA sB : List Sent} {t t' : Nat} {a a' : Bytes} {d d' : Bool} {p : Bytes}
    (hd : FlowsDistinctSack A B) (hA : genuineSack A sA t a d p = true) :
    genuineSack B sB t' a' d' p = false := by
  refine Bool.eq_false_iff.mpr fun hB => ?_
  rcases genuineSack_iff.mp hA with hA | ⟨_, hA⟩ <;> rcases genuineSack_iff.mp hB with hB | ⟨_, hB⟩
  · obtain ⟨v, q, sp, dp, sq, g⟩ := genuineSackQuoted_iff.mp hA
    obtain ⟨v', q', sp', dp', sq', g'⟩ := genuineSackQuoted_iff.mp hB
    cases g.view.symm.trans g'.view
    cases g.quote.symm.trans g'.quote
    cases g.ports.symm.trans g'.ports
    cases g.qseq.symm.trans g'.qseq
    -- both runs place the quoted sequence number `sq` in their window
    exact quoted_clash g.qdst g.dport g.strict g'.qdst g'.dport g'.strict hd t t' g.min g.max g'.min g'.max
      ((seq_of_rel (u32_lt g.qseq) g.rel).trans (seq_of_rel (u32_lt g.qseq) g'.rel).symm)
  · exact sigQuoted_not_tcp (sig_sackQuoted hA) (sig_sackDirect hB).sigTcp
  · exact sigQuoted_not_tcp (sig_sackQuoted hB) (sig_sackDirect hA).sigTcp
  · exact direct_clash (sig_sackDirect hA) (sig_sackDirect hB) hd

/-- no probe of the TCP-SYN run carries a sequence number inside the SACK run's window `ISN + [min, max]` -/
def SeqsOutsideWindow (sc : List Sent) (s : SackCfg) : Prop :=
  ∀ x ∈ sc, ∀ t, s.min ≤ t → t ≤ s.max → x.seq ≠ (s.isn + t) % 4294967296

/-- TCP SYN run `c` next to SACK run `s`: the target addr:port differs; or the local addr:port differs
    (what the OS gives two TCP sockets) and (both strict, or the SYN run's sequence numbers lie outside
    the SACK run's window) -/
def FlowsDistinctTcpSack (c : TcpCfg) (s : SackCfg) (sc : List Sent) : Prop :=
  TargetDiff c.target c.tport s.target s.tport ∨
  (LocalDiff c.localA c.lport s.localA s.lport ∧ ((c.loosen = false ∧ s.loosen = false) ∨ SeqsOutsideWindow sc s))

theorem isolation_tcp_sack {C : TcpCfg} {S : SackCfg} {sC sS : List Sent} {t t' : Nat} {a a' : Bytes} {d d' : Bool} {p : Bytes}
    (hd : FlowsDistinctTcpSack C S sC) (hC : genuineTcp C sC t a d p = true) :
    genuineSack S sS t' a' d' p = false := by
  refine Bool.eq_false_iff.mpr fun hS => ?_
  cases d <;> rcases genuineSack_iff.mp hS with hS | ⟨_, hS⟩
  · obtain ⟨v, q, sp, dp, sq, g⟩ := genuineTcpQuoted_iff.mp hC
    obtain ⟨v', q', sp', dp', sq', g'⟩ := genuineSackQuoted_iff.mp hS
    cases g.view.symm.trans g'.view
    cases g.quote.symm.trans g'.quote
    cases g.ports.symm.trans g'.ports
    cases g.qseq.symm.trans g'.qseq
    obtain ⟨x, hx, hxt, hxi, hxs⟩ := g.sent
    exact quoted_clash g.qdst g.dport g.strict g'.qdst g'.dport g'.strict hd x hx t' g'.min g'.max
      (hxs.trans (seq_of_rel (u32_lt g.qseq) g'.rel).symm)
  · exact sigQuoted_not_tcp (sig_tcpQuoted hC) (sig_sackDirect hS).sigTcp
  · exact sigQuoted_not_tcp (sig_sackQuoted hS) (sig_tcpDirect hC).sigTcp
  · exact direct_clash (sig_tcpDirect hC) (sig_sackDirect hS) hd

theorem isolation_udp4_sack {U : UdpCfg} {C : SackCfg} {sU sC : List Sent} {t t' : Nat} {a a' : Bytes} {d d' : Bool} {p : Bytes}
    (hC : genuineSack C sC t a d p = true) :
    genuineUdp4 U sU t' a' d' p = false :=
  Bool.eq_false_iff.mpr fun hU => udp_tcp_excl (sig_udp4 hU) (sig_sack hC)

theorem isolation_icmp6 {A B : IcmpCfg} {sA sB : List Sent} {t t' : Nat} {a a' : Bytes} {d d' : Bool} {p : Bytes}
    (hd : FlowsDistinctIcmp A B) (hA : genuineIcmp6 A sA t a d p = true) :
    genuineIcmp6 B sB t' a' d' p = false := by
  refine Bool.eq_false_iff.mpr fun hB => ?_
  cases d <;> cases d'
  · obtain ⟨v, q, ety, eid, eseq, g⟩ := genuineIcmp6TE_iff.mp hA
    obtain ⟨v', q', ety', eid', eseq', g'⟩ := genuineIcmp6TE_iff.mp hB
    cases g.view.symm.trans g'.view
    cases g.quote.symm.trans g'.quote
    cases g.rId.symm.trans g'.rId
    exact hd.elim (· (g.id.symm.trans g'.id)) (· (g.qdst.symm.trans g'.qdst))
  · exact sigQuoted6_not_echo (sig_icmp6TE hA) (sig_icmp6Echo hB)
  · exact sigQuoted6_not_echo (sig_icmp6TE hB) (sig_icmp6Echo hA)
  · obtain ⟨v, ty, eid, eseq, g⟩ := genuineIcmp6Echo_iff.mp hA
    obtain ⟨v', ty', eid', eseq', g'⟩ := genuineIcmp6Echo_iff.mp hB
    cases g.view.symm.trans g'.view
    cases g.rId.symm.trans g'.rId
    exact hd.elim (· (g.id.symm.trans g'.id)) (· ((g.src.trans g.target).symm.trans (g'.src.trans g'.target)))

theorem isolation_udp6 {A B : UdpCfg} {sA sB : List Sent} {t t' : Nat} {a a' : Bytes} {d d' : Bool} {p : Bytes}
    (hd : FlowsDistinctUdp A B) (hA : genuineUdp6 A sA t a d p = true) :
    genuineUdp6 B sB t' a' d' p = false := by
  refine Bool.eq_false_iff.mpr fun hB => ?_
  obtain ⟨v, q, sp, dp, g⟩ := genuineUdp6_iff.mp hA
  obtain ⟨v', q', sp', dp', g'⟩ := genuineUdp6_iff.mp hB
  cases g.view.symm.trans g'.view
  cases g.quote.symm.trans g'.quote
  cases g.ports.symm.trans g'.ports
  exact quoted_clash g.qdst g.dport g.strict g'.qdst g'.dport g'.strict
    (hd.imp_right fun ⟨sa, sb, hld⟩ => ⟨hld, Or.inl ⟨sa, sb⟩⟩)

end TRV.Proofs
