import TRV.Proofs.Genuine
/-!
# Signatures of genuine packets; cross-protocol isolation (C11, after the fix for F11)

A packet that is genuine for a run of one protocol carries that protocol's *signature*: either an
ICMP error quoting a datagram whose protocol field is the run's protocol, or a direct reply whose
outer protocol is TCP, or an echo reply.  The signatures of different protocols exclude each other,
so no packet is genuine for an ICMP run and a UDP run, a UDP run and a TCP-SYN/SACK run, or an ICMP
run and a TCP-SYN/SACK run — with NO hypothesis on addresses, ports or identifiers.  The same over
IPv6 for ICMPv6 and UDP.  A signature also fixes the bytes the capture filters inspect
(`Props.C12Compose`).
-/
namespace TRV.Proofs
open TRV TRV.Spec TRV.Drv

def SigQuoted (p : Bytes) (k : Nat) : Prop :=
  ∃ v q, view4 p = some v ∧ quote4 p v.l4 = some q ∧ v.outerProto = 1 ∧
    (q.icmpType = 11 ∨ q.icmpType = 3) ∧ q.qProto = k

def SigTcp (p : Bytes) : Prop := ∃ v, view4 p = some v ∧ v.outerProto = 6

/-- direct TCP segment at fragment offset 0 from `target:tport` to `localA:lport`: what the direct
    forms of TCP SYN and SACK share, and what the tuple filter looks at -/
def SigTcpOn (p target : Bytes) (tport : Nat) (localA : Bytes) (lport : Nat) : Prop :=
  ∃ v, view4 p = some v ∧ portsAt p v.l4 = some (tport, lport) ∧ v.outerProto = 6 ∧ v.outerFrag = 0 ∧
    v.outerSrc = target ∧ v.outerDst = localA

def SigEcho (p : Bytes) : Prop := ∃ v, view4 p = some v ∧ v.outerProto = 1 ∧ u8 p v.l4 = some 0

theorem sigQuoted_unique {p : Bytes} {k k' : Nat} (h : SigQuoted p k) (h' : SigQuoted p k') : k = k' := by
  obtain ⟨v, q, hv, hq, _, _, hk⟩ := h
  obtain ⟨v', q', hv', hq', _, _, hk'⟩ := h'
  cases hv.symm.trans hv'
  cases hq.symm.trans hq'
  exact hk.symm.trans hk'

theorem sigQuoted_not_tcp {p : Bytes} {k : Nat} (h : SigQuoted p k) (h' : SigTcp p) : False := by
  obtain ⟨v, q, hv, _, h1, _, _⟩ := h
  obtain ⟨v', hv', h6⟩ := h'
  cases hv.symm.trans hv'
  omega

theorem sigQuoted_not_echo {p : Bytes} {k : Nat} (h : SigQuoted p k) (h' : SigEcho p) : False := by
  obtain ⟨v, q, hv, hq, _, hty, _⟩ := h
  obtain ⟨v', hv', _, h0⟩ := h'
  cases hv.symm.trans hv'
  have := Option.some.inj ((quote4_type hq).symm.trans h0)
  omega

theorem sigEcho_not_tcp {p : Bytes} (h : SigEcho p) (h' : SigTcp p) : False := by
  obtain ⟨v, hv, h1, _⟩ := h
  obtain ⟨v', hv', h6⟩ := h'
  cases hv.symm.trans hv'
  omega

theorem SigTcpOn.sigTcp {p target localA : Bytes} {tport lport : Nat} (h : SigTcpOn p target tport localA lport) :
    SigTcp p := by
  obtain ⟨v, hv, _, h6, _⟩ := h
  exact ⟨v, hv, h6⟩

theorem sig_tcpDirect {c : TcpCfg} {s : List Sent} {t : Nat} {a p : Bytes} (h : genuineTcpDirect c s t a p = true) :
    SigTcpOn p c.target c.tport c.localA c.lport := by
  obtain ⟨v, sp, dp, ack, fl, last, g⟩ := genuineTcpDirect_iff.mp h
  exact ⟨v, g.view, g.sport ▸ g.dport ▸ g.ports, g.proto, g.frag, g.src.trans g.target, g.dst⟩

theorem sig_sackDirect {c : SackCfg} {s : List Sent} {t : Nat} {a p : Bytes} (h : genuineSackDirect c s t a p = true) :
    SigTcpOn p c.target c.tport c.localA c.lport := by
  obtain ⟨v, sp, dp, b12, fl, ob, opts, g⟩ := genuineSackDirect_iff.mp h
  exact ⟨v, g.view, g.sport ▸ g.dport ▸ g.ports, g.proto, g.frag, g.src.trans g.target, g.dst⟩

theorem sig_icmp4TE {c : IcmpCfg} {s : List Sent} {t : Nat} {a p : Bytes}
    (h : genuineIcmp4TE c s t a p = true) : SigQuoted p 1 := by
  obtain ⟨v, q, ety, eid, eseq, g⟩ := genuineIcmp4TE_iff.mp h
  exact ⟨v, q, g.view, g.quote, g.proto, Or.inl g.type, g.qproto⟩

theorem sig_icmp4Echo {c : IcmpCfg} {s : List Sent} {t : Nat} {a p : Bytes}
    (h : genuineIcmp4Echo c s t a p = true) : SigEcho p := by
  obtain ⟨v, ty, eid, eseq, g⟩ := genuineIcmp4Echo_iff.mp h
  exact ⟨v, g.view, g.proto, g.etype ▸ g.rType⟩

theorem sig_icmp4 {c : IcmpCfg} {s : List Sent} {t : Nat} {a : Bytes} {d : Bool} {p : Bytes}
    (h : genuineIcmp4 c s t a d p = true) : SigQuoted p 1 ∨ SigEcho p := by
  cases d
  · exact Or.inl (sig_icmp4TE h)
  · exact Or.inr (sig_icmp4Echo h)

theorem sig_udp4 {c : UdpCfg} {s : List Sent} {t : Nat} {a : Bytes} {d : Bool} {p : Bytes}
    (h : genuineUdp4 c s t a d p = true) : SigQuoted p 17 := by
  obtain ⟨v, q, sp, dp, g⟩ := genuineUdp4_iff.mp h
  exact ⟨v, q, g.view, g.quote, g.proto, g.type.imp And.left id, g.qproto⟩

theorem sig_tcpQuoted {c : TcpCfg} {s : List Sent} {t : Nat} {a p : Bytes}
    (h : genuineTcpQuoted c s t a p = true) : SigQuoted p 6 := by
  obtain ⟨v, q, sp, dp, sq, g⟩ := genuineTcpQuoted_iff.mp h
  exact ⟨v, q, g.view, g.quote, g.proto, Or.inl g.type, g.qproto⟩

theorem sig_sackQuoted {c : SackCfg} {s : List Sent} {t : Nat} {a : Bytes} {d : Bool} {p : Bytes}
    (h : genuineSackQuoted c s t a d p = true) : SigQuoted p 6 := by
  obtain ⟨v, q, sp, dp, sq, g⟩ := genuineSackQuoted_iff.mp h
  exact ⟨v, q, g.view, g.quote, g.proto, Or.inl g.type, g.qproto⟩

theorem sig_tcp {c : TcpCfg} {s : List Sent} {t : Nat} {a : Bytes} {d : Bool} {p : Bytes}
    (h : genuineTcp c s t a d p = true) : SigQuoted p 6 ∨ SigTcp p := by
  cases d
  · exact Or.inl (sig_tcpQuoted h)
  · exact Or.inr (sig_tcpDirect h).sigTcp

theorem sig_sack {c : SackCfg} {s : List Sent} {t : Nat} {a : Bytes} {d : Bool} {p : Bytes}
    (h : genuineSack c s t a d p = true) : SigQuoted p 6 ∨ SigTcp p :=
  (genuineSack_iff.mp h).imp sig_sackQuoted fun h => (sig_sackDirect h.2).sigTcp

theorem icmp_udp_excl {p : Bytes} (hi : SigQuoted p 1 ∨ SigEcho p) (hu : SigQuoted p 17) : False := by
  rcases hi with hi | hi
  · have := sigQuoted_unique hi hu; omega
  · exact sigQuoted_not_echo hu hi

theorem icmp_tcp_excl {p : Bytes} (hi : SigQuoted p 1 ∨ SigEcho p) (ht : SigQuoted p 6 ∨ SigTcp p) : False := by
  rcases hi with hi | hi <;> rcases ht with ht | ht
  · have := sigQuoted_unique hi ht; omega
  · exact sigQuoted_not_tcp hi ht
  · exact sigQuoted_not_echo ht hi
  · exact sigEcho_not_tcp hi ht

theorem udp_tcp_excl {p : Bytes} (hu : SigQuoted p 17) (ht : SigQuoted p 6 ∨ SigTcp p) : False := by
  rcases ht with ht | ht
  · have := sigQuoted_unique hu ht; omega
  · exact sigQuoted_not_tcp hu ht

def SigQuoted6 (p : Bytes) (k : Nat) : Prop :=
  ∃ v q, view6 p = some v ∧ quote6 p v.l4 = some q ∧ v.upper = 58 ∧ (q.icmpType = 3 ∨ q.icmpType = 1) ∧ q.qNh = k

def SigEcho6 (p : Bytes) : Prop := ∃ v, view6 p = some v ∧ v.upper = 58 ∧ u8 p v.l4 = some 129

theorem sigQuoted6_unique {p : Bytes} {k k' : Nat} (h : SigQuoted6 p k) (h' : SigQuoted6 p k') : k = k' := by
  obtain ⟨v, q, hv, hq, _, _, hk⟩ := h
  obtain ⟨v', q', hv', hq', _, _, hk'⟩ := h'
  cases hv.symm.trans hv'
  cases hq.symm.trans hq'
  exact hk.symm.trans hk'

theorem sigQuoted6_not_echo {p : Bytes} {k : Nat} (h : SigQuoted6 p k) (h' : SigEcho6 p) : False := by
  obtain ⟨v, q, hv, hq, _, hty, _⟩ := h
  obtain ⟨v', hv', _, h129⟩ := h'
  cases hv.symm.trans hv'
  have := Option.some.inj ((quote6_type hq).symm.trans h129)
  omega

theorem sig_icmp6TE {c : IcmpCfg} {s : List Sent} {t : Nat} {a p : Bytes}
    (h : genuineIcmp6 c s t a false p = true) : SigQuoted6 p 58 := by
  obtain ⟨v, q, ety, eid, eseq, g⟩ := genuineIcmp6TE_iff.mp h
  exact ⟨v, q, g.view, g.quote, g.proto, Or.inl g.type, g.qproto⟩

theorem sig_icmp6Echo {c : IcmpCfg} {s : List Sent} {t : Nat} {a p : Bytes}
    (h : genuineIcmp6 c s t a true p = true) : SigEcho6 p := by
  obtain ⟨v, ty, eid, eseq, g⟩ := genuineIcmp6Echo_iff.mp h
  exact ⟨v, g.view, g.proto, g.etype ▸ g.rType⟩

theorem sig_icmp6 {c : IcmpCfg} {s : List Sent} {t : Nat} {a : Bytes} {d : Bool} {p : Bytes}
    (h : genuineIcmp6 c s t a d p = true) : SigQuoted6 p 58 ∨ SigEcho6 p := by
  cases d
  · exact Or.inl (sig_icmp6TE h)
  · exact Or.inr (sig_icmp6Echo h)

theorem sig_udp6 {c : UdpCfg} {s : List Sent} {t : Nat} {a : Bytes} {d : Bool} {p : Bytes}
    (h : genuineUdp6 c s t a d p = true) : SigQuoted6 p 17 := by
  obtain ⟨v, q, sp, dp, g⟩ := genuineUdp6_iff.mp h
  exact ⟨v, q, g.view, g.quote, g.proto, g.type.imp And.left id, g.qproto⟩

theorem icmp6_udp6_excl {p : Bytes} (hi : SigQuoted6 p 58 ∨ SigEcho6 p) (hu : SigQuoted6 p 17) : False := by
  rcases hi with hi | hi
  · have := sigQuoted6_unique hi hu; omega
  · exact sigQuoted6_not_echo hu hi

theorem sigQuoted_proto {p : Bytes} {k : Nat} (h : SigQuoted p k) : u8 p 9 = some 1 := by
  obtain ⟨v, q, hv, _, h1, _, _⟩ := h
  obtain ⟨_, _, g⟩ := view4_spec hv
  rw [g.proto, h1]

theorem sigEcho_proto {p : Bytes} (h : SigEcho p) : u8 p 9 = some 1 := by
  obtain ⟨v, hv, h1, _⟩ := h
  obtain ⟨_, _, g⟩ := view4_spec hv
  rw [g.proto, h1]

theorem sigQuoted6_next {p : Bytes} {k : Nat} (h : SigQuoted6 p k) (hdirect : u8 p 6 ≠ some 0) :
    u8 p 6 = some 58 := by
  obtain ⟨v, _, hv, _, hup, _⟩ := h
  exact hup ▸ view6_direct hv hdirect

theorem sigEcho6_next {p : Bytes} (h : SigEcho6 p) (hdirect : u8 p 6 ≠ some 0) : u8 p 6 = some 58 := by
  obtain ⟨v, hv, hup, _⟩ := h
  exact hup ▸ view6_direct hv hdirect

end TRV.Proofs
