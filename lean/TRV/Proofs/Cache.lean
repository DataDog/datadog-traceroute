import TRV.Spec.Enrich
/-!
# The cache of C18 (`cache.GetWithExpiration` over go-cache)

Over the interleaving semantics `CStep`: every entry was stored by a successful callback for that
key, with that key's expiry (`CInv`), and an entry is only ever replaced by one that is served at
least as long (`persist`).  For the sequential client: the store is a function of the history
(`storeOf`), which turns the trace specification's clause for a call into a statement about `Store.get`
(`callOK_storeOf`); `observe_traceOK` follows by running the client.  The namespace is `TRV.Proofs.Enr`,
shared with `Proofs/PublicIP.lean` and `Proofs/Enrich.lean`.
-/
namespace TRV.Proofs.Enr
open TRV TRV.Enrich TRV.Spec.Enr

section CacheLemmas
variable {K V : Type} [DecidableEq K]

omit [DecidableEq K] in
theorem get_eq_some_iff {s : Store K V} {now : Nat} {k : K} {v : V} :
    s.get now k = some v ↔ ∃ e, s k = some e ∧ e.fresh now = true ∧ e.val = v := by
  unfold Store.get
  cases s k with
  | none => simp
  | some e => by_cases h : e.fresh now <;> simp [h]

theorem fresh_iff_stillValid {e : Entry V} {t : Nat} {d : Int} (h : e.exp = expOf t d) (now : Nat) :
    e.fresh now = stillValid now t d := by
  unfold Entry.fresh stillValid
  rw [h]; unfold expOf
  generalize (if d = 0 then defaultExpire else d) = d'
  by_cases h' : d' > 0
  · have : ¬ d' ≤ 0 := by omega
    simp [h', this]
  · have : d' ≤ 0 := by omega
    simp [h', this]

theorem stillValid_mono {t t' : Nat} (h : t ≤ t') {now : Nat} {d : Int} (hv : stillValid now t d = true) :
    stillValid now t' d = true := by
  simp only [stillValid, Bool.or_eq_true, decide_eq_true_eq] at hv ⊢
  exact hv.imp_right fun h' => Nat.le_trans h' (Nat.add_le_add_right h _)

theorem step_now_le {ttl : K → Int} {s s' : CSt K V} {l : CLabel K V} (hs : CStep ttl s l s') :
    s.now ≤ s'.now := by
  cases hs <;> simp

theorem step_store_at {ttl : K → Int} {s s' : CSt K V} {l : CLabel K V} (hs : CStep ttl s l s') (k : K) :
    s'.store k = s.store k ∨
      ∃ id v, l = .stored id k v s.now ∧ s'.store k = some ⟨v, expOf s.now (ttl k)⟩ := by
  cases hs with
  | cbOk id k' v hp =>
    by_cases hk : k = k'
    · subst hk; exact .inr ⟨id, v, rfl, if_pos rfl⟩
    · exact .inl (if_neg hk)
  | _ => exact .inl rfl

/-- every entry was put there by a successful callback for that key -/
def CInv (ttl : K → Int) (tr : List (CLabel K V)) (s : CSt K V) : Prop :=
  ∀ k e, s.store k = some e →
    ∃ id t, CLabel.stored id k e.val t ∈ tr ∧ e.exp = expOf t (ttl k) ∧ t ≤ s.now

theorem cinv_reach {ttl : K → Int} {t0 : Nat} {tr : List (CLabel K V)} {s : CSt K V}
    (h : CReach ttl t0 tr s) : CInv ttl tr s := by
  induction h with
  | init => exact nofun
  | step _ hs ih =>
    intro k e he
    rcases step_store_at hs k with h | ⟨id, v, rfl, h⟩
    · obtain ⟨id, t, hm, hx, ht⟩ := ih k e (h ▸ he)
      exact ⟨id, t, List.mem_cons_of_mem _ hm, hx, Nat.le_trans ht (step_now_le hs)⟩
    · cases h.symm.trans he
      exact ⟨id, _, List.mem_cons_self, rfl, step_now_le hs⟩

theorem reach_steps {ttl : K → Int} {t0 : Nat} {tr : List (CLabel K V)} {s s' : CSt K V}
    (h : CReach ttl t0 tr s) (hs : CSteps ttl s s') : ∃ tr', CReach ttl t0 tr' s' := by
  induction hs with
  | refl => exact ⟨tr, h⟩
  | step _ h1 ih => obtain ⟨tr', h'⟩ := ih; exact ⟨_, CReach.step h' h1⟩

/-- a step replaces an entry, if at all, by one stored later with the same expiry, which is served
    whenever the old one would be -/
theorem persist_step {ttl : K → Int} {tr : List (CLabel K V)} {s s' : CSt K V} {l : CLabel K V} {k : K} {e : Entry V}
    (hi : CInv ttl tr s) (he : s.store k = some e) (hs : CStep ttl s l s') :
    ∃ e', s'.store k = some e' ∧ ∀ now, e.fresh now = true → e'.fresh now = true := by
  rcases step_store_at hs k with h | ⟨_, v, _, h⟩
  · exact ⟨e, h ▸ he, fun _ hf => hf⟩
  · obtain ⟨_, t, _, hx, ht⟩ := hi k e he
    refine ⟨_, h, fun now hf => ?_⟩
    rw [fresh_iff_stillValid hx] at hf
    rw [fresh_iff_stillValid rfl]
    exact stillValid_mono ht hf

theorem persist {ttl : K → Int} {t0 : Nat} {tr : List (CLabel K V)} {s s' : CSt K V} {k : K} {e : Entry V}
    (h : CReach ttl t0 tr s) (he : s.store k = some e) (hs : CSteps ttl s s') :
    ∃ e', s'.store k = some e' ∧ ∀ now, e.fresh now = true → e'.fresh now = true := by
  induction hs with
  | refl => exact ⟨e, he, fun _ hf => hf⟩
  | step hs1 h1 ih =>
    obtain ⟨e', he', hle⟩ := ih
    obtain ⟨_, hr'⟩ := reach_steps h hs1
    obtain ⟨e'', he'', hle'⟩ := persist_step (cinv_reach hr') he' h1
    exact ⟨e'', he'', fun now hf => hle' now (hle now hf)⟩

theorem getWithExpiration_hit {s : Store K V} {now : Nat} {k : K} {v : V} (h : s.get now k = some v)
    (cb : Option V) (dur : Nat) (ttl : Int) :
    getWithExpiration s now k cb dur ttl = { result := some v, store := s, cbCalls := 0, now := now } := by
  simp [getWithExpiration, h]

theorem getWithExpiration_miss {s : Store K V} {now : Nat} {k : K} (h : s.get now k = none)
    (cb : Option V) (dur : Nat) (ttl : Int) :
    getWithExpiration s now k cb dur ttl =
      { result := cb, store := s.finish (now + dur) k cb ttl, cbCalls := 1, now := now + dur } := by
  simp [getWithExpiration, h]

/-- the store a history leaves behind: per key the latest success since the last flush -/
def storeOf (hist : List (Obs K V)) : Store K V :=
  fun k => (lastSuccess k hist).map fun x => ⟨x.1, expOf x.2.1 x.2.2⟩

theorem storeOf_call (hist : List (Obs K V)) (at_ : Nat) (k : K) (ttl : Int) (ran : Bool) (out : Option V)
    (doneAt : Nat) (res : Option V) :
    storeOf (.call at_ k ttl ran out doneAt res :: hist) =
      if ran then (storeOf hist).finish doneAt k out ttl else storeOf hist := by
  funext k'
  cases ran with
  | false => simp [storeOf, lastSuccess]
  | true =>
    cases out with
    | none => simp [storeOf, lastSuccess, Store.finish]
    | some v =>
      simp only [storeOf, lastSuccess, Store.finish, Store.set, and_true, if_true, eq_comm (a := k')]
      split <;> rfl

theorem get_storeOf (hist : List (Obs K V)) (now : Nat) (k : K) :
    (storeOf hist).get now k = match lastSuccess k hist with
      | some (v, t, ttl) => if stillValid now t ttl then some v else none
      | none => none := by
  unfold Store.get storeOf
  cases lastSuccess k hist with
  | none => rfl
  | some x => rw [Option.map_some]; simp only []; rw [fresh_iff_stillValid rfl]

end CacheLemmas

section SeqCache
variable {K V : Type} [DecidableEq K] [DecidableEq V]

theorem callOK_storeOf (hist : List (Obs K V)) (at_ : Nat) (k : K) (ttl : Int) (ran : Bool) (out : Option V)
    (doneAt : Nat) (res : Option V) :
    callOK hist (.call at_ k ttl ran out doneAt res) =
      match (storeOf hist).get at_ k with
      | some v => ran == false && res == some v
      | none => ran == true && res == out := by
  simp only [get_storeOf, callOK]
  cases lastSuccess k hist with
  | none => rfl
  | some x => simp only []; split <;> rfl

theorem observe_traceOK (ops : List (SeqOp K V)) (now : Nat) (hist : List (Obs K V)) :
    traceOKFrom hist (observe ops (storeOf hist) now) = true := by
  induction ops generalizing now hist with
  | nil => rfl
  | cons op rest ih =>
    cases op with
    | sleep d => exact ih (now + d) hist
    | flush => exact ih now (.flush :: hist)
    | get k cb dur ttl =>
      simp only [observe, traceOKFrom, callOK_storeOf]
      cases hg : (storeOf hist).get now k with
      | some v =>
        rw [getWithExpiration_hit hg]
        have := ih now (.call now k ttl false none now (some v) :: hist)
        rw [storeOf_call] at this
        simpa using this
      | none =>
        rw [getWithExpiration_miss hg]
        have := ih (now + dur) (.call now k ttl true cb (now + dur) cb :: hist)
        rw [storeOf_call] at this
        simpa using this

end SeqCache

end TRV.Proofs.Enr
