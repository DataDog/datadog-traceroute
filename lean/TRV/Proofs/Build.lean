import TRV.Model.Build
import TRV.Proofs.Bytes
/-! Lemmas about the probe builders: the Internet checksum (`verifies_insert`: a buffer verifies once the
checksum computed over it with a zero field is put into that field), lengths of the pieces, the two header
bytes the parser dispatches on. -/
namespace TRV.Proofs
open TRV TRV.Build

theorem fold16_le (x : Nat) : fold16 x ≤ 0xffff := by
  induction x using fold16.induct with
  | case1 x h ih => rwa [fold16, dif_pos h]
  | case2 x h => rw [fold16, dif_neg h]; omega

theorem fold16_mod (x : Nat) : fold16 x % 65535 = x % 65535 := by
  induction x using fold16.induct with
  | case1 x h ih => rw [fold16, dif_pos h, ih]; omega
  | case2 x h => rw [fold16, dif_neg h]

theorem fold16_pos (x : Nat) (h : 0 < x) : 0 < fold16 x := by
  induction x using fold16.induct with
  | case1 x hx ih => rw [fold16, dif_pos hx]; exact ih (by omega)
  | case2 x hx => rwa [fold16, dif_neg hx]

theorem cksum_verifies (sum0 : Nat) : fold16 (sum0 + cksum sum0) = 0xffff := by
  -- the folded total is ≤ 0xffff, ≡ 0 mod 0xffff and not 0
  have hle := fold16_le sum0
  have hm0 := fold16_mod sum0
  have hle' := fold16_le (sum0 + cksum sum0)
  have hm := fold16_mod (sum0 + cksum sum0)
  have hpos : 0 < fold16 (sum0 + cksum sum0) := by
    apply fold16_pos
    cases sum0 with
    | zero => simp [cksum, fold16]
    | succ n => omega
  unfold cksum at *
  omega

theorem cksum_lt (s : Nat) : cksum s < 65536 := by unfold cksum; omega

theorem sum16_append_even : ∀ (a b : Bytes), a.length % 2 = 0 → sum16 (a ++ b) = sum16 a + sum16 b
  | [], b, _ => by simp [sum16]
  | [x], b, h => by simp at h
  | x :: y :: rest, b, h => by
    have hr : rest.length % 2 = 0 := by simp at h; omega
    simp only [List.cons_append, sum16, sum16_append_even rest b hr]
    omega

theorem sum16_be16 {n : Nat} (h : n < 65536) : sum16 (be16 n) = n := by
  simpa only [be16, sum16, Nat.add_zero] using be16_toNat h

theorem verifies_insert (init : Nat) (pre post : Bytes) (hpre : pre.length % 2 = 0) :
    verifies init (pre ++ be16 (cksum (init + sum16 (pre ++ be16 0 ++ post))) ++ post) = true := by
  have h : ∀ ck, ck < 65536 → sum16 (pre ++ be16 ck ++ post) = sum16 pre + ck + sum16 post := by
    intro ck hck
    rw [List.append_assoc, sum16_append_even pre _ hpre, sum16_append_even (be16 ck) post (by rw [be16_length]),
      sum16_be16 hck, Nat.add_assoc]
  rw [verifies, h _ (cksum_lt _), h 0 (by decide), Nat.add_zero, decide_eq_true_eq,
    ← cksum_verifies (init + (sum16 pre + sum16 post))]
  congr 1
  omega

theorem ip4Header_length {tos len id ff ttl proto : Nat} {src dst : Bytes} (hs : src.length = 4) (hd : dst.length = 4) :
    (ip4Header tos len id ff ttl proto src dst).length = 20 := by
  simp [ip4Header, be16, hs, hd]

/-- the two header bytes the parser dispatches on, whatever follows the header -/
theorem ip4Header_bytes {tos len id ff ttl proto : Nat} {src dst seg : Bytes} (hpr : proto < 256) :
    u8 (ip4Header tos len id ff ttl proto src dst ++ seg) 0 = some 0x45 ∧
      u8 (ip4Header tos len id ff ttl proto src dst ++ seg) 9 = some proto := by
  simp only [ip4Header, be16, List.cons_append, List.nil_append, List.append_assoc, u8_cons_succ, u8_cons_zero,
    byte_toNat hpr]
  exact ⟨rfl, trivial⟩

theorem ip4Header_verifies (tos len id ff ttl proto : Nat) (src dst : Bytes) :
    verifies 0 (ip4Header tos len id ff ttl proto src dst) = true := by
  unfold ip4Header
  have := verifies_insert 0 ([byte 0x45, byte tos] ++ be16 len ++ be16 id ++ be16 ff ++ [byte ttl, byte proto]) (src ++ dst)
    (by simp [be16])
  simpa [List.append_assoc] using this

theorem ip6Header_length {plen nh hop : Nat} {src dst : Bytes} (hs : src.length = 16) (hd : dst.length = 16) :
    (ip6Header plen nh hop src dst).length = 40 := by
  simp [ip6Header, be16, hs, hd]

theorem repeatMagic_length (n : Nat) : (repeatMagic n).length = n := by
  unfold repeatMagic
  rw [List.length_take]
  have : (List.replicate (n / 5 + 1) magic).flatten.length = 5 * (n / 5 + 1) := by
    simp [List.length_flatten, magic]
    omega
  rw [this]
  omega

end TRV.Proofs
