import TRV.Model.Handshake
/-! Lemmas for C11 (handshake) about `Model/Handshake`: `OwnSynAck` says on the decoded packet what "this
connection's SYN-ACK" is; `hsRecv` skips every non-empty packet that is not one (`hsRecv_foreign`) and on one returns
`hsVerdict`, the outcome of the option loop alone (`hsRecv_of_own`; `hsVerdict_spec` reads each outcome back
to the packet's options); so whatever the read loop `hsRead`
returns other than a time-out or a zero-length read was decided by such a packet (`hsRead_own`).  The namespace is
`TRV.Proofs` itself, not `TRV.Proofs.Handshake`: the statements of `Props/C11Handshake` name `OwnSynAck` under `open TRV.Proofs`. -/
namespace TRV.Proofs
open TRV TRV.Wire TRV.Drv

/-- what "this connection's SYN-ACK" means on the decoded view -/
def OwnSynAck (localA target : Bytes) (lport tport : Nat) (pkt : Bytes) (t : TCP) : Prop :=
  ∃ l3, parse (pkt.take bufSize) = some (l3, .tcp t) ∧ l3.src = target ∧ l3.dst = localA ∧
    t.sport = tport ∧ t.dport = lport ∧ t.syn = true ∧ t.ackf = true

variable {localA target : Bytes} {lport tport : Nat}

theorem hsOpts_cons_of_ne {o : Nat × Bytes} {r : List (Nat × Bytes)} {sp : Bool} {ts : Option (Nat × Nat)}
    {res : Bool × Option (Nat × Nat)} (h4 : o.1 ≠ 4) (h : hsOpts (o :: r) sp ts = some res) :
    ∃ ts', hsOpts r sp ts' = some res := by
  rw [hsOpts, if_neg h4] at h
  by_cases h8 : o.1 = 8
  · rw [if_pos h8] at h
    split at h
    · cases h
    · split at h
      · exact ⟨_, h⟩
      · cases h
  · rw [if_neg h8] at h
    exact ⟨_, h⟩

theorem hsOpts_sp {opts : List (Nat × Bytes)} {sp : Bool} {ts : Option (Nat × Nat)}
    {res : Bool × Option (Nat × Nat)} (h : hsOpts opts sp ts = some res) :
    res.1 = true ↔ sp = true ∨ ∃ d, (4, d) ∈ opts := by
  induction opts generalizing sp ts with
  | nil => cases h; simp
  | cons o r ih =>
    by_cases h4 : o.1 = 4
    · rw [hsOpts, if_pos h4] at h
      rw [ih h]
      exact ⟨fun _ => .inr ⟨o.2, h4 ▸ List.mem_cons_self⟩, fun _ => .inl rfl⟩
    · obtain ⟨ts', h'⟩ := hsOpts_cons_of_ne h4 h
      rw [ih h']
      have : ∀ d, (4, d) ≠ o := fun d e => h4 (e ▸ rfl)
      simp [this]

/-- what `handleHandshake` makes of this connection's SYN-ACK: the outcome of the option loop -/
def hsVerdict (t : TCP) : HsOut :=
  match hsOpts t.opts false none with
  | none => .truncTS
  | some (false, _) => .notSupported
  | some (true, ts) => .done t.ack ((t.seq + 1) % 4294967296) ts

/-- what a verdict says of `t`: a completed handshake read its numbers off it and it carried SACK-permitted
    (option 4); "not supported" means it did not -/
theorem hsVerdict_spec {t : TCP} {o : HsOut} :
    hsVerdict t = o → match o with
    | .done isn iack _ => isn = t.ack ∧ iack = (t.seq + 1) % 4294967296 ∧ ∃ d, (4, d) ∈ t.opts
    | .notSupported => ∀ d, (4, d) ∉ t.opts
    | _ => True := by
  rintro rfl
  unfold hsVerdict
  rcases h : hsOpts t.opts false none with _ | ⟨_ | _, ts⟩
  · trivial
  · exact fun d hd => by simpa using (hsOpts_sp h).mpr (.inr ⟨d, hd⟩)
  · exact ⟨rfl, rfl, ((hsOpts_sp h).mp rfl).resolve_left (by simp)⟩

theorem hsRecv_of_own {pkt : Bytes} {t : TCP}
    (hne : pkt ≠ []) (h : OwnSynAck localA target lport tport pkt t) :
    hsRecv localA target lport tport pkt = hsVerdict t := by
  obtain ⟨l3, hp, rfl, rfl, rfl, rfl, hs, ha⟩ := h
  -- every guard of `hsRecv` passes; what `simp` leaves is its `match` on the option loop, which is `hsVerdict t` unfolded
  simp [hsRecv, hne, hp, hs, ha]
  rfl

theorem hsRecv_foreign {pkt : Bytes}
    (hne : pkt ≠ []) (h : ∀ t, ¬ OwnSynAck localA target lport tport pkt t) :
    hsRecv localA target lport tport pkt = .skip := by
  rw [hsRecv, if_neg (by simpa using hne)]
  cases hp : parse (pkt.take bufSize) with
  | none => rfl
  | some v =>
    obtain ⟨l3, l4⟩ := v
    cases l4 with
    | tcp t =>
      show (if _ then _ else _) = _
      by_cases c1 : l3.src = target ∧ l3.dst = localA
      case neg => exact if_pos c1
      rw [if_neg (not_not_intro c1)]
      by_cases c2 : tport ≠ t.sport ∨ lport ≠ t.dport
      case pos => exact if_pos c2
      rw [if_neg c2]
      by_cases c3 : (!(t.syn && t.ackf)) = true
      case pos => exact if_pos c3
      -- all three tests passed: the packet is this connection's SYN-ACK
      have c3' : t.syn = true ∧ t.ackf = true := by simpa using c3
      exact absurd ⟨l3, hp, c1.1, c1.2, by omega, by omega, c3'.1, c3'.2⟩ (h t)
    | _ => rfl

theorem hsRead_append_skip (pre post : List Bytes)
    (h : ∀ p ∈ pre, hsRecv localA target lport tport p = .skip) :
    hsRead localA target lport tport (pre ++ post) = hsRead localA target lport tport post := by
  induction pre with
  | nil => rfl
  | cons p ps ih =>
    simp only [List.cons_append, hsRead, h p List.mem_cons_self]
    exact ih (fun q hq => h q (List.mem_cons_of_mem _ hq))

theorem hsRead_inv (pkts : List Bytes) {o : HsOut}
    (h : hsRead localA target lport tport pkts = o) (h0 : o ≠ .timeout) :
    ∃ p ∈ pkts, hsRecv localA target lport tport p = o ∧ o ≠ .skip := by
  induction pkts with
  | nil => exact absurd h.symm h0
  | cons p ps ih =>
    unfold hsRead at h
    split at h
    · obtain ⟨q, hm, hq⟩ := ih h
      exact ⟨q, List.mem_cons_of_mem _ hm, hq⟩
    · rename_i hns
      exact ⟨p, List.mem_cons_self, h, fun he => hns (h ▸ he)⟩

theorem hsRead_own {pkts : List Bytes} {o : HsOut}
    (h : hsRead localA target lport tport pkts = o) (h0 : o ≠ .timeout) (h2 : o ≠ .fatal) :
    ∃ p ∈ pkts, ∃ t, OwnSynAck localA target lport tport p t ∧ hsVerdict t = o := by
  obtain ⟨p, hm, rfl, h1⟩ := hsRead_inv pkts h h0
  have hne : p ≠ [] := by rintro rfl; exact h2 rfl
  obtain ⟨t, hown⟩ : ∃ t, OwnSynAck localA target lport tport p t :=
    Classical.not_forall_not.mp fun hn => h1 (hsRecv_foreign hne hn)
  exact ⟨p, hm, t, hown, (hsRecv_of_own hne hown).symm⟩

end TRV.Proofs
