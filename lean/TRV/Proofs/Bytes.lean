import TRV.Basic.Bytes
/-!
# Lemmas about the byte-string vocabulary of `Basic/Bytes.lean`

What speaks of `byte be16 be32 u8 u16 u32 beNat Window` and of lists only.  Lemmas that also need `Spec.raw`
or `Wire.slice` are with their users (`Proofs/RawView.lean`: windows; `Proofs/Probe.lean`: read-back;
`Proofs/Genuine.lean`: `u32_of_raw`), those about `Logic.be` in `Proofs/TieCommon.lean`.

Two namespaces: `TRV`, beside the definitions, for what a single read returns (value, bound, existence,
length needed) and for the `Window` lemmas (so that `hw.u8` is `Window.u8`); `TRV.Proofs` for the rest
(offsets and `drop`, `++`, read-back, `beNat`, the `if` inversions).

* What a read returns.  A 16-bit read is two 8-bit reads, a 32-bit read two 16-bit reads (`u16_eq_some_iff`,
  `u32_eq_some_iff`); bounds, existence and the window lemmas follow from these without unfolding.
* Reading at an offset is reading what is left after `drop` (`u8_drop` …); every lemma that shifts an offset
  comes from that.
* Reading back what was written.  A reader applied to `piece ++ rest` at an offset behind `piece` skips the
  piece (`*_append_of_le`, `*_cons_succ`); at offset 0 it returns the byte, `be16 n` or `be32 n` standing in
  front (`u8_cons_zero`, `u8_byte`, `u16_be16`, `u32_be32`).  Given to `simp` together (simp right-nests
  `++` by itself) these walk a layout piece by piece, the side conditions being lengths of single pieces,
  and never look into a piece: a checksum field stays `be16 ck` whatever `ck` is.
  The same by `drop`: a read at a positive offset is a read at 0 of what is left (`u8_succ` …), and `drop`
  steps over the fields in front (`List.drop_succ_cons`, `drop_be16`, `drop_be32`, `drop_append_add`), so
  that the same steps serve `slice` and the payload's `drop`.  Given to `simp only` together with the heads,
  these resolve every read of a decoder on a header written in field order.
-/

namespace TRV

theorem byte_toNat {n : Nat} (h : n < 256) : (byte n).toNat = n := Nat.mod_eq_of_lt h

theorem u8_eq {b : Bytes} {off : Nat} (h : off < b.length) : u8 b off = some b[off].toNat := by
  rw [u8, List.getElem?_eq_getElem h, Option.map_some]

theorem u16_eq_some_iff {b : Bytes} {off v : Nat} :
    u16 b off = some v ↔ ∃ hi lo, u8 b off = some hi ∧ u8 b (off + 1) = some lo ∧ hi * 256 + lo = v := by
  unfold u16
  cases u8 b off <;> cases u8 b (off + 1) <;> simp

theorem u32_eq_some_iff {b : Bytes} {off v : Nat} :
    u32 b off = some v ↔ ∃ hi lo, u16 b off = some hi ∧ u16 b (off + 2) = some lo ∧ hi * 65536 + lo = v := by
  unfold u32
  cases u16 b off <;> cases u16 b (off + 2) <;> simp

theorem u8_lt {b : Bytes} {off v : Nat} (h : u8 b off = some v) : v < 256 := by
  obtain ⟨x, _, rfl⟩ := Option.map_eq_some_iff.mp h
  exact x.isLt

theorem u16_lt {b : Bytes} {off v : Nat} (h : u16 b off = some v) : v < 65536 := by
  obtain ⟨hi, lo, h0, h1, rfl⟩ := u16_eq_some_iff.mp h
  have := u8_lt h0; have := u8_lt h1; omega

theorem u32_lt {b : Bytes} {off v : Nat} (h : u32 b off = some v) : v < 4294967296 := by
  obtain ⟨hi, lo, h0, h1, rfl⟩ := u32_eq_some_iff.mp h
  have := u16_lt h0; have := u16_lt h1; omega

theorem u8_isSome_iff {b : Bytes} {off : Nat} : (u8 b off).isSome ↔ off < b.length := by
  rw [u8, Option.isSome_map, isSome_getElem?]

theorem u8_of_lt {b : Bytes} {off : Nat} (h : off < b.length) : ∃ v, u8 b off = some v := ⟨_, u8_eq h⟩

theorem u16_of_lt {b : Bytes} {off : Nat} (h : off + 1 < b.length) : ∃ v, u16 b off = some v :=
  ⟨_, u16_eq_some_iff.mpr ⟨_, _, u8_eq (Nat.lt_of_succ_lt h), u8_eq h, rfl⟩⟩

theorem u32_of_lt {b : Bytes} {off : Nat} (h : off + 3 < b.length) : ∃ v, u32 b off = some v := by
  obtain ⟨hi, h0⟩ := u16_of_lt (b := b) (off := off) (by omega)
  obtain ⟨lo, h1⟩ := u16_of_lt (b := b) (off := off + 2) h
  exact ⟨_, u32_eq_some_iff.mpr ⟨hi, lo, h0, h1, rfl⟩⟩

theorem u16_len {b : Bytes} {off v : Nat} (h : u16 b off = some v) : off + 2 ≤ b.length := by
  obtain ⟨_, _, _, h1, _⟩ := u16_eq_some_iff.mp h
  exact u8_isSome_iff.mp (Option.isSome_of_eq_some h1)

theorem u32_len {b : Bytes} {off v : Nat} (h : u32 b off = some v) : off + 4 ≤ b.length := by
  obtain ⟨_, _, _, h1, _⟩ := u32_eq_some_iff.mp h
  exact u16_len h1

theorem u16_none {b : Bytes} {off : Nat} (h : b.length < off + 2) : u16 b off = none :=
  Option.eq_none_iff_forall_ne_some.mpr fun _ hv => Nat.not_le_of_lt h (u16_len hv)

theorem ne_nil_of_u8 {b : Bytes} {v : Nat} (h : u8 b 0 = some v) : b ≠ [] := by
  rintro rfl; cases h

theorem Window.refl (d : Bytes) : Window d d 0 := by intro j x h; simpa using h

theorem Window.drop (d : Bytes) (k : Nat) : Window (d.drop k) d k := by
  intro j x h; simpa [List.getElem?_drop] using h

theorem Window.take (d : Bytes) (n : Nat) : Window (d.take n) d 0 := by
  intro j x h
  rw [List.getElem?_take] at h
  split at h <;> simp_all

theorem Window.trans {a b c : Bytes} {k l : Nat} (h1 : Window a b k) (h2 : Window b c l) :
    Window a c (l + k) := by
  intro j x h
  have := h2 _ _ (h1 _ _ h)
  simpa [Nat.add_assoc] using this

theorem Window.le {w d : Bytes} {k n : Nat} (hw : Window w d k) (hn : n ≤ w.length) : n = 0 ∨ k + n ≤ d.length := by
  cases n with
  | zero => exact Or.inl rfl
  | succ m => exact Or.inr (List.getElem?_eq_some_iff.mp (hw m w[m] (List.getElem?_eq_getElem hn))).1

theorem Window.u8 {w d : Bytes} {k off v : Nat} (hw : Window w d k)
    (h : TRV.u8 w off = some v) : TRV.u8 d (k + off) = some v := by
  obtain ⟨x, hx, rfl⟩ := Option.map_eq_some_iff.mp h
  exact Option.map_eq_some_iff.mpr ⟨x, hw off x hx, rfl⟩

theorem Window.u16 {w d : Bytes} {k off v : Nat} (hw : Window w d k)
    (h : TRV.u16 w off = some v) : TRV.u16 d (k + off) = some v := by
  obtain ⟨hi, lo, h0, h1, hv⟩ := u16_eq_some_iff.mp h
  exact u16_eq_some_iff.mpr ⟨hi, lo, hw.u8 h0, Nat.add_assoc .. ▸ hw.u8 h1, hv⟩

theorem Window.u32 {w d : Bytes} {k off v : Nat} (hw : Window w d k)
    (h : TRV.u32 w off = some v) : TRV.u32 d (k + off) = some v := by
  obtain ⟨hi, lo, h0, h1, hv⟩ := u32_eq_some_iff.mp h
  exact u32_eq_some_iff.mpr ⟨hi, lo, hw.u16 h0, Nat.add_assoc .. ▸ hw.u16 h1, hv⟩

theorem Window.slice {w d : Bytes} {k : Nat} (hw : Window w d k) (off n : Nat)
    (hn : off + n ≤ w.length) : (d.drop (k + off)).take n = (w.drop off).take n := by
  apply List.ext_getElem?
  intro j
  rw [List.getElem?_take, List.getElem?_take, List.getElem?_drop, List.getElem?_drop]
  split
  · next hj =>
    have hlt : off + j < w.length := by omega
    rw [Nat.add_assoc, hw _ _ (List.getElem?_eq_getElem hlt), List.getElem?_eq_getElem hlt]
  · rfl

end TRV

namespace TRV.Proofs

theorem u8_drop (d : Bytes) (n off : Nat) : u8 (d.drop n) off = u8 d (n + off) := by
  simp only [u8, List.getElem?_drop]

theorem u16_drop (d : Bytes) (n off : Nat) : u16 (d.drop n) off = u16 d (n + off) := by
  simp only [u16, u8_drop, Nat.add_assoc]

theorem u32_drop (d : Bytes) (n off : Nat) : u32 (d.drop n) off = u32 d (n + off) := by
  simp only [u32, u16_drop, Nat.add_assoc]

theorem u8_succ (d : Bytes) (k : Nat) : u8 d (k + 1) = u8 (d.drop (k + 1)) 0 := (u8_drop d (k + 1) 0).symm
theorem u16_succ (d : Bytes) (k : Nat) : u16 d (k + 1) = u16 (d.drop (k + 1)) 0 := (u16_drop d (k + 1) 0).symm
theorem u32_succ (d : Bytes) (k : Nat) : u32 d (k + 1) = u32 (d.drop (k + 1)) 0 := (u32_drop d (k + 1) 0).symm

theorem u8_take_of_lt {p : Bytes} {n k : Nat} (h : k < n) : u8 (p.take n) k = u8 p k := by
  rw [u8, u8, List.getElem?_take_of_lt h]

theorem take_u8 {p : Bytes} {n k v : Nat} (h : u8 (p.take n) k = some v) : u8 p k = some v :=
  Nat.zero_add k ▸ (Window.take p n).u8 h

theorem take_u16 {p : Bytes} {n k v : Nat} (h : u16 (p.take n) k = some v) : u16 p k = some v :=
  Nat.zero_add k ▸ (Window.take p n).u16 h

theorem take_u32 {p : Bytes} {n k v : Nat} (h : u32 (p.take n) k = some v) : u32 p k = some v :=
  Nat.zero_add k ▸ (Window.take p n).u32 h

-- `by rfl`, not `rfl`: a lemma proved by `rfl` is only used by `dsimp`, and a side condition
-- `(be16 n).length ≤ k` simplified that way leaves simp with a proof it cannot assign.
theorem be16_length (n : Nat) : (be16 n).length = 2 := by rfl
theorem be32_length (n : Nat) : (be32 n).length = 4 := by rfl

theorem u8_cons_zero (x : Byte) (l : Bytes) : u8 (x :: l) 0 = some x.toNat := rfl
theorem u8_cons_succ (x : Byte) (l : Bytes) (k : Nat) : u8 (x :: l) (k + 1) = u8 l k := rfl
theorem u16_cons_succ (x : Byte) (l : Bytes) (k : Nat) : u16 (x :: l) (k + 1) = u16 l k := rfl
theorem u32_cons_succ (x : Byte) (l : Bytes) (k : Nat) : u32 (x :: l) (k + 1) = u32 l k := rfl

theorem u8_append_left {a b : Bytes} {off : Nat} (h : off < a.length) : u8 (a ++ b) off = u8 a off := by
  simp only [u8, List.getElem?_append_left h]

theorem u16_append_left {a b : Bytes} {off : Nat} (h : off + 1 < a.length) : u16 (a ++ b) off = u16 a off := by
  simp only [u16, u8_append_left h, u8_append_left (Nat.lt_of_succ_lt h)]

/-! Behind a piece `a`: what is left after dropping `a`.  Stated for an offset written `k + off` with
`a.length = k`, and for any offset `k ≥ a.length` (the form `simp` can use). -/

theorem u8_append_right {a b : Bytes} {k off : Nat} (h : a.length = k) : u8 (a ++ b) (k + off) = u8 b off := by
  rw [← u8_drop, ← h, List.drop_left]

theorem u16_append_right {a b : Bytes} {k off : Nat} (h : a.length = k) : u16 (a ++ b) (k + off) = u16 b off := by
  rw [← u16_drop, ← h, List.drop_left]

theorem u32_append_right {a b : Bytes} {k off : Nat} (h : a.length = k) : u32 (a ++ b) (k + off) = u32 b off := by
  rw [← u32_drop, ← h, List.drop_left]

theorem u8_append_of_le {a b : Bytes} {k : Nat} (h : a.length ≤ k) : u8 (a ++ b) k = u8 b (k - a.length) := by
  rw [← u8_append_right (a := a) (b := b) rfl, Nat.add_sub_cancel' h]

theorem u16_append_of_le {a b : Bytes} {k : Nat} (h : a.length ≤ k) : u16 (a ++ b) k = u16 b (k - a.length) := by
  rw [← u16_append_right (a := a) (b := b) rfl, Nat.add_sub_cancel' h]

theorem u32_append_of_le {a b : Bytes} {k : Nat} (h : a.length ≤ k) : u32 (a ++ b) k = u32 b (k - a.length) := by
  rw [← u32_append_right (a := a) (b := b) rfl, Nat.add_sub_cancel' h]

theorem drop_append_add {a : Bytes} {m : Nat} (h : a.length = m) (k : Nat) (l : Bytes) :
    (a ++ l).drop (k + m) = l.drop k := by
  rw [← h, Nat.add_comm, ← List.drop_drop, List.drop_left]

theorem take_append_of_le {a b : Bytes} {k n : Nat} (h : a.length = k) (hn : k ≤ n) :
    (a ++ b).take n = a ++ b.take (n - k) := by
  rw [List.take_append, h, List.take_of_length_le (by omega)]

theorem drop_be16 (n k : Nat) (l : Bytes) : (be16 n ++ l).drop (k + 2) = l.drop k := rfl
theorem drop_be32 (n k : Nat) (l : Bytes) : (be32 n ++ l).drop (k + 4) = l.drop k := rfl

theorem u8_byte {n : Nat} (h : n < 256) (rest : Bytes) : u8 (byte n :: rest) 0 = some n := by
  rw [u8_cons_zero, byte_toNat h]

theorem be16_toNat {n : Nat} (h : n < 65536) : (byte (n / 256)).toNat * 256 + (byte (n % 256)).toNat = n := by
  rw [byte_toNat (Nat.div_lt_of_lt_mul h), byte_toNat (Nat.mod_lt _ (by decide)), Nat.mul_comm, Nat.div_add_mod]

theorem u16_be16 {n : Nat} (h : n < 65536) (l : Bytes) : u16 (be16 n ++ l) 0 = some n := by
  simpa only [u16, be16, List.cons_append, u8_cons_zero, u8_cons_succ, Option.some.injEq] using be16_toNat h

/-- two 16-bit fields at the head: ports, echo identifier and sequence number -/
theorem u16_pair {a b : Nat} (ha : a < 65536) (hb : b < 65536) (rest : Bytes) :
    u16 (be16 a ++ (be16 b ++ rest)) 0 = some a ∧ u16 (be16 a ++ (be16 b ++ rest)) 2 = some b :=
  ⟨u16_be16 ha _, (u16_append_right (be16_length a) (off := 0)).trans (u16_be16 hb rest)⟩

theorem u32_be32 {n : Nat} (h : n < 4294967296) (l : Bytes) : u32 (be32 n ++ l) 0 = some n := by
  obtain ⟨hi, lo⟩ := u16_pair (a := n / 65536) (b := n % 65536) (Nat.div_lt_of_lt_mul h) (Nat.mod_lt n (by decide)) l
  rw [be32, List.append_assoc]
  exact u32_eq_some_iff.mpr ⟨_, _, hi, lo, Nat.div_add_mod' n 65536⟩

theorem beNat_foldl (b : Bytes) (a : Nat) :
    b.foldl (fun acc x => acc * 256 + x.toNat) a = a * 256 ^ b.length + beNat b := by
  unfold beNat
  induction b generalizing a with
  | nil => simp
  | cons x t ih =>
    simp only [List.foldl_cons, List.length_cons, ih (a * 256 + x.toNat), ih (0 * 256 + x.toNat)]
    grind

theorem beNat_cons (x : Byte) (t : Bytes) : beNat (x :: t) = x.toNat * 256 ^ t.length + beNat t := by
  rw [beNat, List.foldl_cons, beNat_foldl, Nat.zero_mul, Nat.zero_add]

theorem beNat_lt (b : Bytes) : beNat b < 256 ^ b.length := by
  induction b with
  | nil => simp [beNat]
  | cons x t ih =>
    rw [beNat_cons, List.length_cons, Nat.pow_succ]
    calc x.toNat * 256 ^ t.length + beNat t < (x.toNat + 1) * 256 ^ t.length := by
          rw [Nat.add_mul, Nat.one_mul]; omega
      _ ≤ 256 * 256 ^ t.length := Nat.mul_le_mul_right _ (by omega)
      _ = 256 ^ t.length * 256 := Nat.mul_comm ..

theorem beNat_inj : ∀ {a b : Bytes}, a.length = b.length → beNat a = beNat b → a = b
  | [], [], _, _ => rfl
  | x :: s, y :: t, hl, h => by
    have hl' : s.length = t.length := by simpa using hl
    have hs := beNat_lt s
    have ht := beNat_lt t
    rw [beNat_cons, beNat_cons, hl'] at h
    rw [hl'] at hs
    have hp : 0 < 256 ^ t.length := Nat.pow_pos (by omega)
    -- quotient and remainder by `256 ^ t.length` separate the head from the tail
    have hd := congrArg (· / 256 ^ t.length) h
    have hm := congrArg (· % 256 ^ t.length) h
    simp only [Nat.mul_add_div hp, Nat.mul_comm _ (256 ^ t.length), Nat.div_eq_of_lt hs, Nat.div_eq_of_lt ht,
      Nat.mul_add_mod, Nat.mod_eq_of_lt hs, Nat.mod_eq_of_lt ht, Nat.add_zero] at hd hm
    rw [BitVec.toNat_inj.mp hd, beNat_inj hl' hm]

theorem u16_beNat {b : Bytes} {off : Nat} (h : off + 1 < b.length) :
    u16 b off = some (beNat ((b.drop off).take 2)) := by
  have h0 : off < b.length := Nat.lt_of_succ_lt h
  rw [List.drop_eq_getElem_cons h0, List.drop_eq_getElem_cons h]
  show _ = some ((0 * 256 + b[off].toNat) * 256 + b[off + 1].toNat)
  rw [Nat.zero_mul, Nat.zero_add]
  exact u16_eq_some_iff.mpr ⟨_, _, u8_eq h0, u8_eq h, rfl⟩

theorem u32_beNat {b : Bytes} {off : Nat} (h : off + 3 < b.length) :
    u32 b off = some (beNat ((b.drop off).take 4)) := by
  have h0 : off < b.length := by omega
  have h1 : off + 1 < b.length := by omega
  have h2 : off + 2 < b.length := by omega
  rw [List.drop_eq_getElem_cons h0, List.drop_eq_getElem_cons h1, List.drop_eq_getElem_cons h2,
    List.drop_eq_getElem_cons h]
  show _ = some ((((0 * 256 + b[off].toNat) * 256 + b[off + 1].toNat) * 256 + b[off + 2].toNat) * 256 + b[off + 3].toNat)
  refine u32_eq_some_iff.mpr ⟨_, _, u16_eq_some_iff.mpr ⟨_, _, u8_eq h0, u8_eq h1, rfl⟩,
    u16_eq_some_iff.mpr ⟨_, _, u8_eq h2, u8_eq h, rfl⟩, ?_⟩
  omega

/-! ## Inverting an `if` in a hypothesis

Decoders are chains of guards.  `split at h` on an `if` simplifies the whole of `h`, which is slow to check
on a long decoder; these take the guard off by `rw`. -/

theorem of_ite_none {α : Type} {c : Prop} [Decidable c] {x : Option α} {r : α}
    (h : (if c then none else x) = some r) : ¬c ∧ x = some r :=
  Option.ite_none_left_eq_some.mp h

theorem ite_cases {α : Type} {c : Prop} [Decidable c] {x y z : α} (h : (if c then x else y) = z) :
    c ∧ x = z ∨ ¬c ∧ y = z := by
  by_cases hc : c
  · rw [if_pos hc] at h; exact Or.inl ⟨hc, h⟩
  · rw [if_neg hc] at h; exact Or.inr ⟨hc, h⟩

end TRV.Proofs
