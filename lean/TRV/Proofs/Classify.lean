import TRV.Model.Classify
/-! Lemmas about the classification model: wrapping layers are invisible to the chain searches
(`contains_replicate_wrap_append`), and the verdict of a read by the form of its result (`verdict_err_*`,
`verdict_data_*`).  The namespace is the model's, `TRV.Classify`. -/
namespace TRV.Classify

theorem contains_replicate_wrap_append (k : Nat) (c : Chain) (x : Link) (hx : x ≠ .wrap) :
    (List.replicate k Link.wrap ++ c).contains x = c.contains x := by
  simp [hx]

theorem verdict_err_deadline {c : Chain} (hd : isDeadline c = true) : verdict (.err c) = .skip := by
  simp [verdict, readAndParse, hd, retryable]

theorem verdict_err_other {c : Chain} (hp : Plain c) (hd : isDeadline c = false) : verdict (.err c) = .abort := by
  have hr : retryable (Link.wrap :: c) = false := by
    unfold retryable
    simp only [List.contains_cons]
    rw [hp.1, hp.2]
    rfl
  simp [verdict, readAndParse, hd, hr]

theorem verdict_data_zero (parseErr : Bool) : verdict (.data 0 parseErr) = .abort := rfl

theorem verdict_data_bad (n : Nat) : verdict (.data (n+1) true) = .skip := rfl

theorem verdict_data_packet (n : Nat) : verdict (.data (n+1) false) = .packet := rfl

end TRV.Classify
