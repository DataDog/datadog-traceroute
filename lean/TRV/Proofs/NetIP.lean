import TRV.Spec.Result
import TRV.Proofs.Bytes
/-!
# The model of `net.IP`: `Equal(net.IP{})` (C16), `To4` and `IsPrivate` against the numeric ranges (C17)

Model and specification recognise an IPv4 address in the same two forms, 4 bytes or `v4InV6Prefix`
followed by 4 bytes (`to4_eq`, `v4Value_eq`); what is left of `isPrivate_iff_range` is arithmetic on
the first two of 4 bytes, and on the first of 16 for fc00::/7, the rest bounded by `beNat_lt`.  The namespace
is `TRV.Proofs.Result`, shared with `Proofs/Stats.lean` and `Proofs/Result.lean`.
-/
namespace TRV.Proofs.Result
open TRV TRV.Result TRV.ResSpec

theorem ipEqual_nil (ip : Bytes) : ipEqual ip [] = ip.isEmpty := by
  unfold ipEqual; cases ip <;> simp

theorem hasAddrGo_iff (ip : Bytes) : hasAddrGo ip = true ↔ ip ≠ [] := by
  unfold hasAddrGo; rw [ipEqual_nil]; cases ip <;> simp

/-- Go's `isZeros(ip[0:n]) && ip[n] == x && ip[n+1] == y`, as a statement about a prefix -/
theorem zeros_then_iff (n : Nat) (x y : Byte) (ip : Bytes) :
    (isZeros (ip.take n) = true ∧ ip[n]? = some x ∧ ip[n + 1]? = some y) ↔
      ip.take (n + 2) = List.replicate n 0 ++ [x, y] := by
  induction n generalizing ip with
  | zero =>
    match ip with
    | [] | [_] | _ :: _ :: _ => simp [isZeros]
  | succ n ih =>
    cases ip with
    | nil => simp
    | cons a t =>
      rw [List.take_succ_cons, List.take_succ_cons, List.replicate_succ, List.cons_append, List.cons.injEq,
        ← ih t, List.getElem?_cons_succ, List.getElem?_cons_succ]
      simp only [isZeros, List.all_cons, Bool.and_eq_true, beq_iff_eq, and_assoc]

theorem to4_eq (ip : Bytes) :
    to4 ip = if ip.length = 4 then some ip
      else if ip.length = 16 ∧ ip.take 12 = v4InV6Prefix then some (ip.drop 12) else none := by
  simp only [to4, zeros_then_iff 10 0xff 0xff ip]; rfl

theorem to4_length {ip q : Bytes} (h : to4 ip = some q) : q.length = 4 := by
  rw [to4_eq] at h
  by_cases h4 : ip.length = 4
  · rw [if_pos h4] at h; cases h; exact h4
  · rw [if_neg h4] at h
    by_cases hm : ip.length = 16 ∧ ip.take 12 = v4InV6Prefix
    · rw [if_pos hm] at h; cases h; simp [hm.1]
    · rw [if_neg hm] at h; cases h

theorem v4Value_eq (ip : Bytes) : v4Value ip = (to4 ip).map beNat := by
  have hc : (ip.length = 16 ∧ beNat (ip.take 12) = 0xffff) ↔ (ip.length = 16 ∧ ip.take 12 = v4InV6Prefix) :=
    and_congr_right fun h16 =>
      ⟨fun e => beNat_inj (by simp [h16, v4InV6Prefix]) e, fun e => e ▸ rfl⟩
  simp only [to4_eq, v4Value, hc, apply_ite (Option.map beNat), Option.map_some, Option.map_none]

theorem mask_f0 : ∀ b : Byte, (b &&& 0xf0 == 16) = decide (16 ≤ b.toNat ∧ b.toNat ≤ 31) := by
  decide +kernel

theorem mask_fe : ∀ b : Byte, (b &&& 0xfe == 0xfc) = decide (252 ≤ b.toNat ∧ b.toNat ≤ 253) := by
  decide +kernel

/-- 10/8, 172.16/12, 192.168/16 are decided by the first two bytes, block by block -/
theorem private4 (q : Bytes) (h : q.length = 4) :
    ((at' q 0 == 10 || (at' q 0 == 172 && at' q 1 &&& 0xf0 == 16) || (at' q 0 == 192 && at' q 1 == 168)) = true) ↔
    ((0x0A000000 ≤ beNat q ∧ beNat q ≤ 0x0AFFFFFF) ∨ (0xAC100000 ≤ beNat q ∧ beNat q ≤ 0xAC1FFFFF) ∨
     (0xC0A80000 ≤ beNat q ∧ beNat q ≤ 0xC0A8FFFF)) := by
  match q, h with
  | a :: b :: s, h =>
    have hs : s.length = 2 := by simpa using h
    have := beNat_lt s
    rw [hs] at this
    have hb := b.isLt
    simp only [at', List.getElem?_cons_zero, List.getElem?_cons_succ, Option.getD_some, Bool.or_eq_true,
      Bool.and_eq_true, mask_f0, beq_iff_eq, ← BitVec.toNat_inj, BitVec.reduceToNat, decide_eq_true_eq, beNat_cons,
      List.length_cons, hs, or_assoc]
    exact or_congr (by omega) (or_congr (by omega) (by omega))

/-- fc00::/7 is decided by the first byte -/
theorem ula_iff (ip : Bytes) (h : ip.length = 16) :
    (at' ip 0 &&& 0xfe == 0xfc) = true ↔
      0xfc000000000000000000000000000000 ≤ beNat ip ∧ beNat ip ≤ 0xfdffffffffffffffffffffffffffffff := by
  match ip, h with
  | x :: t, h =>
    have ht : t.length = 15 := by simpa using h
    have := beNat_lt t
    rw [ht] at this
    simp only [at', List.getElem?_cons_zero, Option.getD_some, mask_fe, decide_eq_true_eq, beNat_cons, ht]
    omega

theorem isPrivate_iff_range (ip : Bytes) : isPrivate ip = true ↔ PrivateRange ip := by
  unfold isPrivate PrivateRange
  rw [v4Value_eq]
  cases h : to4 ip with
  | some q => exact private4 q (to4_length h)
  | none =>
    rw [Option.map_none, Bool.and_eq_true, beq_iff_eq]
    exact and_congr_right (ula_iff ip)

theorem not_private_nil : ¬ PrivateRange [] := by
  rw [← isPrivate_iff_range]; decide

end TRV.Proofs.Result
