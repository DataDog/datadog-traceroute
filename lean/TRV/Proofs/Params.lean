import TRV.Spec.Params
/-! Lemmas for C19: narrowing is the identity inside the checked range; the SACK table sized in
    `int` covers every TTL that is sent; `parseTarget` returns the requested port; from these,
    `run_acceptable`: code that checks the range and sizes the table in `int` rejects a request or
    honours it. -/
namespace TRV.Proofs.Params
open TRV.Params TRV.Spec.Params
open TRV.Policy (Method)

theorem u8_of_inRange {x : Int} (h1 : 1 ≤ x) (h2 : x ≤ 255) : u8 x = x.toNat := by
  unfold u8; omega

theorem ttlInRange_iff (x : Int) : ttlInRange x = true ↔ 1 ≤ x ∧ x ≤ 255 := by
  simp [ttlInRange]

theorem engineValid_iff (a b : Nat) : engineValid a b = true ↔ a ≤ b ∧ 1 ≤ a := by
  simp [engineValid]

theorem ttlList_requested {a b : Int} (h1 : 1 ≤ a) (h2 : a ≤ b) :
    ttlList a.toNat b.toNat = List.range' a.toNat (b - a + 1).toNat := by
  unfold ttlList
  congr 1
  omega

theorem mem_ttlList {a b t : Nat} : t ∈ ttlList a b ↔ a ≤ t ∧ t ≤ b := by
  unfold ttlList
  rw [List.mem_range'_1]
  omega

theorem sackSend_all {len : Nat} : ∀ {l : List Nat}, (∀ t ∈ l, t < len) → sackSend len l = some l
  | [], _ => rfl
  | t :: ts, h => by
    have ht : t < len := h t (List.mem_cons_self ..)
    have hts : ∀ u ∈ ts, u < len := fun u hu => h u (List.mem_cons_of_mem _ hu)
    simp [sackSend, ht, sackSend_all hts]

theorem sackSend_int (a b : Nat) : sackSend (sackTableLen true b) (ttlList a b) = some (ttlList a b) := by
  apply sackSend_all
  intro t ht
  have := mem_ttlList.1 ht
  simp [sackTableLen]; omega

theorem parseTarget_some {lit : LitPort} {d : Int} {q : Nat} (h : parseTarget lit d = some q) :
    ∃ n : Int, (lit = .absent ∧ n = d ∨ lit = .num n) ∧ 1 ≤ n ∧ n ≤ 65535 ∧ (q : Int) = n := by
  have check (n : Int) (hn : (if n < 1 ∨ n > 65535 then none else some (u16 n)) = some q) :
      1 ≤ n ∧ n ≤ 65535 ∧ (q : Int) = n := by
    split at hn
    · cases hn
    · cases hn; unfold u16; omega
  cases lit with
  | garbage => cases h
  | absent => exact ⟨d, .inl ⟨rfl, rfl⟩, check d h⟩
  | num n => exact ⟨n, .inr rfl, check n h⟩

theorem portHonoured_of_parse {p : P} {pl : Plan} {q : Nat} (hproto : p.proto ≠ .icmp)
    (h : parseTarget p.litPort (destPort p.port) = some q) (hpl : pl.port = some q) :
    portHonoured p pl = true := by
  obtain ⟨n, hn, h1, h2, hq⟩ := parseTarget_some h
  have hreq : requestedPort p = some n := by
    rcases hn with ⟨hl, rfl⟩ | hl <;> rw [requestedPort, hl] <;> rfl
  -- the requested port is `n`, the plan's is `q = n`
  rw [portHonoured, hreq, hpl]
  cases hp : p.proto with
  | icmp => exact absurd hp hproto
  | _ => simp [h1, h2, hq]

theorem acceptable_plan {p : P} {pl : Plan} (h1 : 1 ≤ p.minTTL) (h2 : p.maxTTL ≤ 255)
    (hv : engineValid p.minTTL.toNat p.maxTTL.toNat = true)
    (ht : pl.ttls = ttlList p.minTTL.toNat p.maxTTL.toNat) (hp : portHonoured p pl = true)
    (hpr : protoHonoured p pl = true) (hm : methodHonoured p pl = true) :
    acceptable p (.plan pl) = true := by
  have hle : p.minTTL ≤ p.maxTTL := by
    have := (engineValid_iff _ _).mp hv
    omega
  -- the TTLs sent are the requested range; the other three parts are the hypotheses
  have htt : ttlsHonoured p pl = true := by simp [ttlsHonoured, ht, ttlList_requested h1 hle, h1, h2, hle]
  rw [acceptable, honoured, htt, hp, hpr, hm]
  rfl

theorem acceptable_guard {p : P} {a b : Nat} {o : Outcome} (h : engineValid a b = true → acceptable p o = true) :
    acceptable p (if !engineValid a b then .reject else o) = true := by
  cases hv : engineValid a b with
  | false => rfl
  | true => exact h hv

theorem synRun_acceptable {p : P} {q : Nat} (h1 : 1 ≤ p.minTTL) (h2 : p.maxTTL ≤ 255) (hproto : p.proto = .tcp)
    (hpt : parseTarget p.litPort (destPort p.port) = some q)
    (hm : p.method = .empty ∨ p.method = .syn ∨ p.method = .preferSack) :
    acceptable p (synRun p.minTTL.toNat p.maxTTL.toNat q p.v6) = true := by
  unfold synRun
  refine acceptable_guard fun hv => ?_
  cases h6 : p.v6 with
  | true => rfl
  | false =>
    exact acceptable_plan h1 h2 hv rfl (portHonoured_of_parse (by simp [hproto]) hpt rfl)
      (by simp [protoHonoured, hproto, h6]) (by rcases hm with hm | hm | hm <;> simp [methodHonoured, hproto, hm])

theorem sackRun_acceptable {p : P} {q : Nat} (h1 : 1 ≤ p.minTTL) (h2 : p.maxTTL ≤ 255) (hproto : p.proto = .tcp)
    (hpt : parseTarget p.litPort (destPort p.port) = some q)
    (hm : p.method = .sack ∨ p.method = .preferSack) (h6 : p.v6 = false) :
    acceptable p (sackRun true p.minTTL.toNat p.maxTTL.toNat q) = true := by
  unfold sackRun
  refine acceptable_guard fun hv => ?_
  rw [sackSend_int]
  exact acceptable_plan h1 h2 hv rfl (portHonoured_of_parse (by simp [hproto]) hpt rfl)
    (by simp [protoHonoured, hproto, h6]) (by rcases hm with hm | hm <;> simp [methodHonoured, hproto, hm])

theorem sackAttempt_capable {v6 : Bool} {a : Avail} (h : sackAttempt v6 a = .capable) : v6 = false := by
  cases v6 with
  | false => rfl
  | true => cases h

/-- code that range-checks the TTL bounds and sizes the SACK table in `int` -/
theorem run_acceptable (p : P) : acceptable p (run true true p) = true := by
  unfold run runOnce
  by_cases hr : (ttlInRange p.minTTL && ttlInRange p.maxTTL) = true
  case neg => simp [hr, acceptable]
  obtain ⟨⟨h1, h2⟩, h3, h4⟩ : (1 ≤ p.minTTL ∧ p.minTTL ≤ 255) ∧ 1 ≤ p.maxTTL ∧ p.maxTTL ≤ 255 := by
    simpa [ttlInRange_iff] using hr
  -- inside the range the narrowing to `uint8` changes nothing
  simp only [hr, u8_of_inRange h1 h2, u8_of_inRange h3 h4]
  cases hproto : p.proto with
  | other => rfl
  | udp =>
    cases hpt : parseTarget p.litPort (destPort p.port) with
    | none => rfl
    | some q =>
      exact acceptable_guard fun hv => acceptable_plan h1 h4 hv rfl
        (portHonoured_of_parse (by simp [hproto]) hpt rfl) (by simp [protoHonoured, hproto])
        (by simp [methodHonoured, hproto])
  | icmp =>
    cases parseTarget p.litPort 80 with
    | none => rfl
    | some _ =>
      exact acceptable_guard fun hv => acceptable_plan h1 h4 hv rfl (by simp [portHonoured, hproto])
        (by simp [protoHonoured, hproto]) (by simp [methodHonoured, hproto])
  | tcp =>
    cases hpt : parseTarget p.litPort (destPort p.port) with
    | none => rfl
    | some q =>
      have syn := synRun_acceptable h1 h4 hproto hpt
      have sack := sackRun_acceptable h1 h4 hproto hpt
      cases hm : p.method with
      | empty => exact syn (.inl hm)
      | syn => exact syn (.inr (.inl hm))
      | synSocket | other => rfl
      | sack =>
        cases hs : sackAttempt p.v6 p.avail with
        | capable => exact sack (.inl hm) (sackAttempt_capable hs)
        | _ => rfl
      | preferSack =>
        cases hs : sackAttempt p.v6 p.avail with
        | capable => exact sack (.inr hm) (sackAttempt_capable hs)
        | unsupported => exact syn (.inr (.inr hm))
        | fatal => rfl

theorem acceptable_iff {p : P} {o : Outcome} :
    acceptable p o = true ↔ o = .reject ∨ ∃ pl, o = .plan pl ∧ Honoured p pl := by
  cases o <;> simp [acceptable, Honoured]

end TRV.Proofs.Params
