import TRV.Proofs.Complete
/-!
# Byte-level completeness (C02), IPv6: ICMPv6 echo reply, ICMPv6 time-exceeded quoting our echo
request, and ICMPv6 errors quoting our UDP datagram

The ICMPv6 message stands directly behind the IPv6 header (`icmpMsg6`) or behind ANY hop-by-hop
header — any length, any option bytes gopacket's TLV loop accepts, no jumbo option (`icmpMsg6h`:
routers and hosts may put router alert or padding in front; gopacket decodes the extension header in
place and the matchers see the ICMPv6 layer behind it).  Both parse to an ICMPv6 layer from `r` with
the given type, code and body (`parse_icmpMsg6`, `parse_icmpMsg6h`); the three `*_of_parse` lemmas
finish from there, whatever the outer encapsulation.
-/
namespace TRV.Proofs
open TRV TRV.Wire TRV.Drv

/-- `d` names the packet as in `rawHdr4o_reads` -/
theorem rawHdr6_reads {b1 b2 b3 plen nh hop : Nat} {src dst : Bytes} (hs : src.length = 16) (hd : dst.length = 16)
    (hpl : plen < 65536) (hnh : nh < 256) (hhop : hop < 256) (pl : Bytes) {d : Bytes}
    (h : d = rawHdr6 b1 b2 b3 plen nh hop src dst ++ pl) :
    u8 d 0 = some (0x60 + (b1 / 256) % 16) ∧ u16 d 4 = some plen ∧ u8 d 6 = some nh ∧ u8 d 7 = some hop ∧
    slice d 8 16 = src ∧ slice d 24 16 = dst ∧ d.drop 40 = pl := by
  have hv : 0x60 + (b1 / 256) % 16 < 256 := by omega
  simp only [h, rawHdr6, List.append_assoc, List.cons_append, List.nil_append,
    slice, u8_succ, u16_succ, List.drop_succ_cons, drop_be16, List.drop_zero, drop_append_add hs, drop_append_add hd,
    List.take_left' hs, List.take_left' hd, u8_byte hv, u8_byte hnh, u8_byte hhop, u16_be16 hpl, and_self]

/-- version 6, whatever the traffic-class bits that share its byte -/
theorem rawHdr6_version (b1 : Nat) : (0x60 + (b1 / 256) % 16) / 16 = 6 := by omega

theorem ip6_rawHdr6 {b1 b2 b3 plen nh hop : Nat} {src dst pl : Bytes} (hs : src.length = 16) (hd : dst.length = 16)
    (hplen : 0 < plen) (hpl : plen < 65536) (hnz : nh ≠ 0) (hnh : nh < 256) (hhop : hop < 256) :
    ip6 (rawHdr6 b1 b2 b3 plen nh hop src dst ++ pl) =
      some { len := plen, nextHeader := nh, hop := hop, src := src, dst := dst, upper := nh, payload := pl.take plen } := by
  obtain ⟨-, e4, e6, e7, hsrc, hdst, hdrop⟩ := rawHdr6_reads (b1 := b1) (b2 := b2) (b3 := b3) hs hd hpl hnh hhop pl rfl
  rw [ip6_of_reads (by rw [List.length_append, rawHdr6_length hs hd]; omega) e4 e6 e7 hnz
    (Nat.ne_of_gt hplen), hsrc, hdst, hdrop]

theorem ip6_rawHdr6_hbh {b1 b2 b3 plen hop hnext hlen : Nat} {src dst tlvs l4 : Bytes} {opts : List (Nat × Bytes)}
    (hs : src.length = 16) (hd : dst.length = 16)
    (hplen : 0 < plen) (hpl : plen < 65536) (hhop : hop < 256) (hn : hnext < 256) (hh : hlen < 256)
    (htl : tlvs.length = hlen * 8 + 6)
    (htlv : hbhTLVs (hlen * 8 + 8) ([byte hnext, byte hlen] ++ tlvs ++ l4) 2 (hlen * 8 + 8) = some opts)
    (hj : hbhJumbo opts = some none) :
    ip6 (rawHdr6 b1 b2 b3 plen 0 hop src dst ++ ([byte hnext, byte hlen] ++ tlvs ++ l4)) =
      some { len := plen, nextHeader := 0, hop := hop, src := src, dst := dst, upper := hnext, payload := l4.take plen } := by
  obtain ⟨-, e4, e6, e7, hsrc, hdst, hdrop⟩ := rawHdr6_reads (b1 := b1) (b2 := b2) (b3 := b3) (nh := 0) hs hd hpl
    (by decide) hhop ([byte hnext, byte hlen] ++ tlvs ++ l4) rfl
  have hX : ([byte hnext, byte hlen] ++ tlvs).length = hlen * 8 + 8 := by simp [htl]
  have p0 : u8 ([byte hnext, byte hlen] ++ tlvs ++ l4) 0 = some hnext := by
    simp only [List.append_assoc, List.cons_append, u8_byte hn]
  have p1 : u8 ([byte hnext, byte hlen] ++ tlvs ++ l4) 1 = some hlen := by
    simp only [List.append_assoc, List.cons_append, u8_succ, List.drop_succ_cons, List.drop_zero, u8_byte hh]
  rw [ip6_of_reads_hbh (by rw [List.length_append, rawHdr6_length hs hd]; omega) e4 e6 e7
    (Nat.ne_of_gt hplen) hdrop p0 p1 (by rw [List.length_append, hX]; omega) htlv hj, hsrc, hdst, List.drop_left' hX]

theorem icmp6_hdr {ty code ick : Nat} {rest : Bytes} (hty : ty < 256) (hco : code < 256) :
    icmp6 (([byte ty, byte code] ++ be16 ick) ++ rest) = some { type := ty, code := code, payload := rest } := by
  unfold icmp6
  rw [if_neg (by simp [be16])]
  simp only [List.cons_append, List.nil_append, u8_succ, List.drop_succ_cons, List.drop_zero, u8_byte hty, u8_byte hco,
    drop_be16]

/-- an IPv6 packet read into the drivers' buffer (nothing is cut) whose IPv6 layer decodes to `h`,
    with or without extension header, with an ICMPv6 message as its payload -/
theorem parse_rawHdr6_icmp6 {b1 b2 b3 plen nh hop ty code ick : Nat} {src dst pl rest : Bytes} {h : IP6}
    (hs : src.length = 16) (hd : dst.length = 16) (hpl : plen < 65536) (hnh : nh < 256) (hhop : hop < 256)
    (hsize : 40 + pl.length ≤ 1024)
    (hip : ip6 (rawHdr6 b1 b2 b3 plen nh hop src dst ++ pl) = some h) (hup : h.upper = 58)
    (hpay : h.payload = ([byte ty, byte code] ++ be16 ick) ++ rest) (hty : ty < 256) (hco : code < 256) :
    parse ((rawHdr6 b1 b2 b3 plen nh hop src dst ++ pl).take bufSize) =
      some (.v6 h, .icmp6 { type := ty, code := code, payload := rest }) := by
  rw [List.take_of_length_le (by rw [List.length_append, rawHdr6_length hs hd]; exact hsize)]
  exact parse_of_parsed (.icmp6 (rawHdr6_reads hs hd hpl hnh hhop pl rfl).1 (rawHdr6_version b1) hip hup
    (by rw [hpay]; exact icmp6_hdr hty hco))

theorem parse_icmpMsg6 {ob1 ob2 ob3 ohop ty code ick : Nat} {r dst rest4 body : Bytes}
    (hr : r.length = 16) (hd : dst.length = 16) (hrest : rest4.length = 4)
    (hhop : ohop < 256) (hty : ty < 256) (hco : code < 256) (hsize : 48 + body.length ≤ 1024) :
    ∃ l3, parse ((icmpMsg6 ob1 ob2 ob3 ohop r dst ty code ick rest4 body).take bufSize) =
      some (l3, .icmp6 { type := ty, code := code, payload := rest4 ++ body }) ∧ l3.src = r := by
  have hl := icmp_length (ty := ty) (code := code) (ick := ick) (body := body) hrest
  exact ⟨_, parse_rawHdr6_icmp6 hr hd (by omega) (by decide) hhop (by rw [hl]; omega)
    (ip6_rawHdr6 hr hd (by omega) (by omega) (by decide) (by decide) hhop) rfl
    (by rw [List.take_of_length_le (Nat.le_of_eq hl), List.append_assoc]) hty hco, rfl⟩

theorem parse_icmpMsg6h {ob1 ob2 ob3 ohop hlen ty code ick : Nat} {r dst tlvs rest4 body : Bytes} {opts : List (Nat × Bytes)}
    (hr : r.length = 16) (hd : dst.length = 16) (hrest : rest4.length = 4)
    (hhop : ohop < 256) (hty : ty < 256) (hco : code < 256) (hh : hlen < 256) (htl : tlvs.length = hlen * 8 + 6)
    (htlv : hbhTLVs (hlen * 8 + 8) ([byte 58, byte hlen] ++ tlvs ++ (([byte ty, byte code] ++ be16 ick ++ rest4) ++ body)) 2 (hlen * 8 + 8) = some opts)
    (hj : hbhJumbo opts = some none)
    (hsize : 40 + (hlen * 8 + 8 + (8 + body.length)) ≤ 1024) :
    ∃ l3, parse ((icmpMsg6h ob1 ob2 ob3 ohop r dst hlen tlvs ty code ick rest4 body).take bufSize) =
      some (l3, .icmp6 { type := ty, code := code, payload := rest4 ++ body }) ∧ l3.src = r := by
  have hl := icmp_length (ty := ty) (code := code) (ick := ick) (body := body) hrest
  exact ⟨_, parse_rawHdr6_icmp6 hr hd (by omega) (by decide) hhop
    (by simp only [List.length_append, hl, htl, List.length_cons, List.length_nil]; omega)
    (ip6_rawHdr6_hbh hr hd (by omega) (by omega) hhop (by decide) hh htl htlv hj) rfl
    (by rw [List.take_of_length_le (by rw [hl]; omega), List.append_assoc]) hty hco, rfl⟩

theorem quoted6_length {qb1 qb2 qb3 qplen qnh qhop : Nat} {qsrc qdst q8 extra : Bytes}
    (hs : qsrc.length = 16) (hd : qdst.length = 16) (hq8 : q8.length = 8) :
    (rawHdr6 qb1 qb2 qb3 qplen qnh qhop qsrc qdst ++ (q8 ++ extra)).length = 48 + extra.length := by
  rw [List.length_append, rawHdr6_length hs hd, List.length_append, hq8]; omega

/-- `GetICMPInfo` on an ICMPv6 error body: 4 bytes, then the quoted IPv6 header, then the first 8 bytes
    `q8` of the quoted transport header and what the quoted payload length leaves of `extra` -/
theorem icmpInfo6_quote {ty code : Nat} {qb1 qb2 qb3 qplen qnh qhop : Nat} {qsrc qdst rest4 q8 extra : Bytes}
    (hs : qsrc.length = 16) (hd : qdst.length = 16) (hrest : rest4.length = 4) (hq8 : q8.length = 8)
    (h1 : 8 ≤ qplen) (h2 : qplen < 65536) (h3 : qnh ≠ 0) (h4 : qnh < 256) (h5 : qhop < 256) :
    icmpInfo6 { type := ty, code := code,
                payload := rest4 ++ (rawHdr6 qb1 qb2 qb3 qplen qnh qhop qsrc qdst ++ (q8 ++ extra)) } =
      some { wrappedId := if qnh = 17 then qplen else 0, proto := qnh, qsrc := qsrc, qdst := qdst,
             payload := q8 ++ extra.take (qplen - 8) } := by
  have hb := (rawHdr6_reads (b1 := qb1) (b2 := qb2) (b3 := qb3) hs hd h2 h4 h5 (q8 ++ extra) rfl).1
  unfold icmpInfo6
  simp only [u8_succ, drop_append_add hrest, List.drop_zero, hb, rawHdr6_version, ne_eq, not_true_eq_false, if_false,
    ip6_rawHdr6 hs hd (by omega) h2 h3 h4 h5, take_append_of_le hq8 h1, Option.map_some]

theorem extractEcho6_q8 {ety ecode eck id t : Nat} {x : Bytes} (hety : ety = 128 ∨ ety = 129) (hec : ecode < 256)
    (hid : id < 65536) (ht : t < 65536) :
    extractEcho6 (([byte ety, byte ecode] ++ be16 eck ++ be16 id ++ be16 t) ++ x) = some (id, t) := by
  unfold extractEcho6
  rw [show ([byte ety, byte ecode] ++ be16 eck ++ be16 id ++ be16 t) ++ x =
        ([byte ety, byte ecode] ++ be16 eck) ++ (be16 id ++ (be16 t ++ x)) by simp only [List.append_assoc],
    icmp6_hdr (by omega) hec]
  simp only [show (be16 id ++ (be16 t ++ x)).isEmpty = false by simp [be16], Bool.false_eq_true, if_false, hety, if_true,
    (u16_pair hid ht x).1, (u16_pair hid ht x).2]

theorem icmp6_echo_of_parse {s : IcmpSt} {t code : Nat} {p : Sent} {pkt body : Bytes}
    (b13 : s.cfg.echoId < 65536) (b14 : t < 65536)
    (hparse : ∃ l3, parse (pkt.take bufSize) =
        some (l3, .icmp6 { type := 129, code := code, payload := (be16 s.cfg.echoId ++ be16 t) ++ body }) ∧
      l3.src = s.cfg.target)
    (hlk : icmpLookup s t = some p) :
    icmpRecv s pkt = .accept t s.cfg.target true p.time := by
  obtain ⟨l3, hparse, hsrc⟩ := hparse
  rw [← hsrc]
  exact icmpRecv_of_accepts hparse (.echo6 rfl (by rw [List.append_assoc]; exact (u16_pair b13 b14 body).1)
    (by rw [List.append_assoc]; exact (u16_pair b13 b14 body).2) hsrc hlk)

theorem icmp6_te_of_parse {s : IcmpSt} {t : Nat} {p : Sent}
    {code qb1 qb2 qb3 qplen qhop ety ecode eck : Nat} {r rest4 extra pkt : Bytes}
    (hl : s.cfg.localA.length = 16) (htg : s.cfg.target.length = 16) (hrest : rest4.length = 4)
    (b6 : 8 ≤ qplen) (b7 : qplen < 65536) (b10 : qhop < 256)
    (b11 : ety = 128 ∨ ety = 129) (b12 : ecode < 256) (b13 : s.cfg.echoId < 65536) (b14 : t < 65536)
    (hparse : ∃ l3, parse (pkt.take bufSize) = some (l3, .icmp6 { type := 3, code := code, payload := rest4 ++
        (rawHdr6 qb1 qb2 qb3 qplen 58 qhop s.cfg.localA s.cfg.target ++
          (([byte ety, byte ecode] ++ be16 eck ++ be16 s.cfg.echoId ++ be16 t) ++ extra)) }) ∧ l3.src = r)
    (hlk : icmpLookup s t = some p) :
    icmpRecv s pkt = .accept t r false p.time := by
  obtain ⟨l3, hparse, hsrc⟩ := hparse
  rw [← hsrc]
  exact icmpRecv_of_accepts hparse (.te6 rfl (icmpInfo6_quote hl htg hrest rfl b6 b7 (by decide) (by decide) b10)
    rfl rfl rfl (extractEcho6_q8 b11 b12 b13 b14) hlk)

theorem udp6_err_of_parse {s : UdpSt} {p : Sent}
    {ty code qb1 qb2 qb3 qhop : Nat} {r rest4 w extra pkt : Bytes}
    (hl : s.cfg.localA.length = 16) (htg : s.cfg.target.length = 16) (hrest : rest4.length = 4)
    (hw : w.length = 4) (hty : (ty = 3 ∧ code = 0) ∨ ty = 1)
    (b6 : 8 ≤ p.id) (b7 : p.id < 65536) (b10 : qhop < 256)
    (b11 : s.cfg.lport < 65536) (b12 : s.cfg.tport < 65536)
    (hparse : ∃ l3, parse (pkt.take bufSize) = some (l3, .icmp6 { type := ty, code := code, payload := rest4 ++
        (rawHdr6 qb1 qb2 qb3 p.id 17 qhop s.cfg.localA s.cfg.target ++
          ((be16 s.cfg.lport ++ be16 s.cfg.tport ++ w) ++ extra)) }) ∧ l3.src = r)
    (hf : s.sent.find? (·.id = p.id) = some p) :
    udpRecv s pkt = .accept p.ttl r (decide (r = s.cfg.target)) p.time := by
  obtain ⟨l3, hparse, hsrc⟩ := hparse
  rw [← hsrc]
  exact udpRecv_of_accepts hparse (.err6 hty
    (icmpInfo6_quote hl htg hrest (by simp [be16, hw]) b6 b7 (by decide) (by decide) b10) rfl
    (quotedPorts_q8 hw b11 b12) ⟨rfl, rfl⟩ (.inr ⟨rfl, rfl⟩) hf)

end TRV.Proofs
