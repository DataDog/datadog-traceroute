import TRV.Model.Timed
/-! Pacing of the `SendProbe` calls of the timed engine models (C06): the emissions of `sendT` and
`serLoop` begun with TTL `i` at `now` are `PacedFrom d i now` (a `Paced d` list whose head, if any, has
TTL `i` and is not before `now`: what the induction needs).  The cases of the two loops and their
arguments are listed in `Proofs/Timed`. -/
namespace TRV.Proofs
open TRV TRV.Timed TRV.Engine

/-- consecutive emissions: TTL goes up by exactly one and at least `d` passes between the instants
    at which consecutive `SendProbe` calls START -/
def Paced (d : Nat) : List (Nat × Nat) → Prop
  | [] => True
  | [_] => True
  | a :: b :: rest => b.1 = a.1 + 1 ∧ a.2 + d ≤ b.2 ∧ Paced d (b :: rest)

theorem Paced.tail {d : Nat} {a : Nat × Nat} {l : List (Nat × Nat)} (h : Paced d (a :: l)) : Paced d l := by
  cases l with
  | nil => trivial
  | cons => exact h.2.2

def PacedFrom (d i now : Nat) (l : List (Nat × Nat)) : Prop :=
  Paced d l ∧ ∀ a ∈ l.head?, a.1 = i ∧ now ≤ a.2

theorem pacedFrom_nil (d i now : Nat) : PacedFrom d i now [] := ⟨trivial, by simp⟩

theorem pacedFrom_cons {d i now now' : Nat} {l : List (Nat × Nat)} (hle : now + d ≤ now')
    (h : PacedFrom d (i + 1) now' l) : PacedFrom d i now ((i, now) :: l) := by
  refine ⟨?_, by simp⟩
  cases l with
  | nil => trivial
  | cons b rest =>
    obtain ⟨h1, h2⟩ := h.2 b rfl
    exact ⟨h1, Nat.le_trans hle h2, h.1⟩

theorem sendT_paced (c : Cfg) (wstop : Nat) (sd : Nat → Nat) (sfail : Nat → Bool) (n i now : Nat) :
    PacedFrom c.delay i now (sendT c wstop sd sfail n i now).sends := by
  fun_induction sendT c wstop sd sfail n i now
  case case1 | case2 => exact pacedFrom_nil ..
  case case3 => exact pacedFrom_cons (Nat.le_refl _) (pacedFrom_nil ..)
  case case4 ih => exact pacedFrom_cons (by omega) ih

theorem serLoop_paced (c : Cfg) (cancel : Option Nat) (sd : Nat → Nat) (sfail : Nat → Bool)
    (n i now : Nat) (script : List RCall) :
    PacedFrom c.delay i now (serLoop c cancel sd sfail n i now script).sends := by
  fun_induction serLoop c cancel sd sfail n i now script
  case case1 | case2 => exact pacedFrom_nil ..
  -- an iteration that gets past the cancellation test sends `(i, now)`; it ends the loop (3-5) or
  -- goes on with TTL `i + 1` at `max w.now (now + c.delay)` (6, 7)
  case case3 | case4 | case5 => exact pacedFrom_cons (Nat.le_refl _) (pacedFrom_nil ..)
  case case6 ih | case7 ih => exact pacedFrom_cons (Nat.le_max_right ..) ih

theorem parallelT_paced (c : Cfg) (cancel : Option Nat) (sd : Nat → Nat) (sfail : Nat → Bool)
    (start : Nat) (script : List RCall) :
    PacedFrom c.delay c.min start (parallelT c cancel sd sfail start script).sends := by
  unfold parallelT
  split
  · exact pacedFrom_nil ..
  · simp only [apply_ite TRes.sends, ite_self]
    exact sendT_paced ..

theorem serialT_paced (c : Cfg) (cancel : Option Nat) (sd : Nat → Nat) (sfail : Nat → Bool)
    (start : Nat) (script : List RCall) :
    PacedFrom c.delay c.min start (serialT c cancel sd sfail start script).sends := by
  unfold serialT
  split
  · exact pacedFrom_nil ..
  · exact serLoop_paced ..

end TRV.Proofs
