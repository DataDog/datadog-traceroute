import TRV.Proofs.Wire
import TRV.Proofs.Accept
/-!
The tool's own outgoing probes (the capture handle sees them too) never create a hop (C01).

What makes a matcher ignore them is little: an IPv4 header without options whose protocol is not the
one the matcher decodes, an ICMP type 8, a bare SYN.  The lemmas say that of any packet; `Props.C01` reads
the bytes off the builders (`ip4Header_bytes`, `tcpSeg_fields`).
-/
namespace TRV.Proofs
open TRV TRV.Wire TRV.Drv

theorem parse_ihl5 {buf p : Bytes} {l3 : L3} {l4 : L4} (hw : Window buf p 0)
    (hp : parse buf = some (l3, l4)) (h0 : u8 p 0 = some 0x45) :
    ∃ hd, l3 = .v4 hd ∧ u8 p 9 = some hd.proto ∧ Window hd.payload p 20 ∧
      ((hd.proto = 6 ∧ ∃ t, l4 = .tcp t ∧ tcp hd.payload = some t) ∨
       (hd.proto = 1 ∧ ∃ i, l4 = .icmp4 i ∧ Wire.icmp4 hd.payload = some i)) := by
  have outer : ∀ {hd : IP4}, ip4 buf = some hd → u8 p 9 = some hd.proto ∧ Window hd.payload p 20 := by
    intro hd hip
    obtain ⟨b0, g⟩ := ip4_spec hip
    cases h0.symm.trans (hw.u8 g.first)
    exact ⟨hw.u8 g.proto, (g.ihl ▸ g.payload).trans hw⟩
  cases parse_some hp with
  | tcp4 _ _ hip _ hpr ht => exact ⟨_, rfl, (outer hip).1, (outer hip).2, Or.inl ⟨hpr, _, rfl, ht⟩⟩
  | icmp4 _ _ hip _ hpr hi => exact ⟨_, rfl, (outer hip).1, (outer hip).2, Or.inr ⟨hpr, _, rfl, hi⟩⟩
  | tcp6 hb0 hv | icmp6 hb0 hv => cases h0.symm.trans (hw.u8 hb0); omega

theorem icmpRecv_echoRequest (s : IcmpSt) {p : Bytes} (h0 : u8 p 0 = some 0x45) (h20 : u8 p 20 = some 8) :
    icmpRecv s p = .retry := by
  refine (icmpRecv_verdict s p).retry_of (fun l3 l4 t d q hp hacc => ?_) (ne_nil_of_u8 h0) fun _ _ _ => id
  obtain ⟨hd, rfl, _, hwo, ⟨_, _, rfl, _⟩ | ⟨_, i, rfl, hic⟩⟩ := parse_ihl5 (Window.take p bufSize) hp h0
  · cases hacc
  · have hty : i.type = 8 := Option.some.inj ((hwo.u8 (icmp4_spec hic).type).symm.trans h20)
    cases hacc with
    | te4 h11 => omega
    | echo4 h00 => omega

/-- the UDP matcher ignores every IPv4 packet whose protocol is neither ICMP nor TCP (the parser
    decodes nothing else) -/
theorem udpRecv_undecoded (s : UdpSt) {p : Bytes} {pr : Nat} (h0 : u8 p 0 = some 0x45) (h9 : u8 p 9 = some pr)
    (hpr : pr ≠ 6 ∧ pr ≠ 1) : udpRecv s p = .retry := by
  refine (udpRecv_verdict s p).retry_of (fun l3 l4 t d q hp _ => ?_) (ne_nil_of_u8 h0) fun _ _ _ => id
  obtain ⟨hd, rfl, h9', _, hl4⟩ := parse_ihl5 (Window.take p bufSize) hp h0
  cases h9.symm.trans h9'
  rcases hl4 with ⟨h6, _⟩ | ⟨h1, _⟩ <;> omega

/-- a bare SYN (flags 0x02: no ACK, no RST) in an IPv4 packet without options is not a reply -/
theorem tcpRecv_syn (s : TcpSt) {p : Bytes} (h0 : u8 p 0 = some 0x45) (h9 : u8 p 9 = some 6)
    (h33 : u8 p 33 = some 0x02) : tcpRecv s p = .retry := by
  have hsyn : ∀ {l3 : L3} {t : TCP}, parse (p.take bufSize) = some (l3, .tcp t) →
      ¬((t.syn = true ∧ t.ackf = true) ∨ t.rst = true) := by
    intro l3 t hp
    obtain ⟨hd, rfl, _, hwo, ⟨_, _, ht, htcp⟩ | ⟨_, _, ht, _⟩⟩ := parse_ihl5 (Window.take p bufSize) hp h0
    · cases ht
      obtain ⟨_, g⟩ := tcp_spec htcp
      have hfl : t.flags = 2 := Option.some.inj ((hwo.u8 g.flags).symm.trans h33)
      simp [TCP.syn, TCP.ackf, TCP.rst, hfl]
    · cases ht
  refine (tcpRecv_verdict s p).retry_of (fun l3 l4 t d q hp hacc => ?_) ?_ fun _ _ _ => id
  · cases hacc with
    | direct hfl => exact hsyn hp hfl
    | te =>
      obtain ⟨hd, _, h9', _, ⟨_, _, ht, _⟩ | ⟨h1, _⟩⟩ := parse_ihl5 (Window.take p bufSize) hp h0
      · cases ht
      · have := Option.some.inj (h9.symm.trans h9'); omega
  · rintro (hnil | ⟨_, l3, t, hp, h⟩)
    · exact ne_nil_of_u8 h0 hnil
    · exact hsyn hp h.flags

end TRV.Proofs
