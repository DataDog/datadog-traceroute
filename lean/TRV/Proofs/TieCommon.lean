import TRV.Model.Drivers
import TRV.Generated.LogicCommon
import TRV.Proofs.Bytes
import TRV.Proofs.Accept
/-!
# What the Tie modules (`TRV/Props/Tie*.lean`) share

The string-keyed lookups in the records the regenerated trees return are evaluated here, once per
record shape.  Each matcher module has its own `kindOf` (the package's sentinel table in front of the
table of `common/`) and its own `retryableKind`; both are instances of `kindIn` / `retryable` below,
and what the table of `common/` says about a kind is evaluated here as well.  Then the model-side facts
about the two range-checked lookups and the unsigned arithmetic the trees spell out; last (namespace
`BeNat`) the trees' big-endian reads.
-/
namespace TRV.Proofs.TieCommon
open TRV TRV.Drv TRV.Logic TRV.Generated

/-- what the callers read off the record a matcher returns on success, as the translator lays it out -/
theorem get_ok (e : List String) (t rtt : Int) (ip : String) (d : Bool) :
    let r : R := ⟨e, [("0", V.ref "new common.ProbeResponse"), ("0.TTL", V.int t), ("0.IP", V.ref ip),
      ("0.RTT", V.int rtt), ("0.IsDest", V.bool d), ("1", V.nil)]⟩
    r.get "1" = some V.nil ∧ r.get "0.TTL" = some (V.int t) ∧ r.get "0.IsDest" = some (V.bool d) ∧
      r.get "0.IP" = some (V.ref ip) := by
  simp [R.get]

/-- a record of two: value and error -/
theorem get_pair (e : List String) (v w : V) :
    R.get ⟨e, [("0", v), ("1", w)]⟩ "0" = some v ∧ R.get ⟨e, [("0", v), ("1", w)]⟩ "1" = some w := by
  simp [R.get]

/-- the same for the record `GetICMPInfo` returns -/
theorem get_info (e : List String) (pair icmpPair payload : String) (id proto : Int) :
    let r : R := ⟨e, [("0", V.ref "new ICMPInfo"), ("0.IPPair", V.ref pair), ("0.WrappedPacketID", V.int id),
      ("0.WrappedProtocol", V.int proto), ("0.ICMPPair", V.ref icmpPair), ("0.Payload", V.ref payload), ("1", V.nil)]⟩
    r.get "1" = some V.nil ∧ r.get "0.WrappedPacketID" = some (V.int id) ∧ r.get "0.WrappedProtocol" = some (V.int proto) := by
  simp [R.get]

/-- kind of an error value through a sentinel table: a sentinel stands for the kind of the value it
    is initialised with -/
def kindIn (tbl : List (String × String)) (k : String) : String :=
  match tbl.find? (·.1 = k) with
  | some p => p.2
  | none => k

/-- the sentinels of `common/` as the other packages name them -/
def commonTable : List (String × String) :=
  LogicCommon.sentinels.map (fun p => ("common." ++ p.1, "common." ++ p.2))

def retryable (k : String) : Bool := k = "common.BadPacketError" || k = "common.ReceiveProbeNoPktError"

theorem retryable_common {loc : List (String × String)} {k : String} (hloc : loc.find? (·.1 = k) = none)
    (hk : retryable (kindIn commonTable k) = true) : retryable (kindIn (loc ++ commonTable) k) = true := by
  simpa [kindIn, List.find?_append, hloc] using hk

theorem retryable_bad : retryable (kindIn commonTable "common.BadPacketError") = true := by
  simp [retryable, kindIn, commonTable, LogicCommon.sentinels]

theorem retryable_nomatch : retryable (kindIn commonTable "common.ErrPacketDidNotMatchTraceroute") = true := by
  simp [retryable, kindIn, commonTable, LogicCommon.sentinels]

theorem retryable_local {loc tbl : List (String × String)} {k n : String}
    (h : loc.find? (·.1 = k) = some (n, "common.ReceiveProbeNoPktError")) : retryable (kindIn (loc ++ tbl) k) = true := by
  simp [retryable, kindIn, List.find?_append, h]

/-- `a.Compare(b) == 0` with `Compare` read as "0 iff equal": `TieSack.cmp` unfolded (`TieIcmp` unfolds its own `cmp` by `simp`) -/
theorem ite_beq_zero {α : Type} [DecidableEq α] (a b : α) :
    ((if a = b then (0 : Int) else 1) == 0) = decide (a = b) := by
  by_cases h : a = b <;> simp [h]

/-- `uint8(seq)` of a sequence number that passed the range check of `getRTTFromRelSeq` -/
theorem low8 {n : Nat} (h : n ≤ 255) : (n : Int) % 256 = n :=
  Int.emod_eq_of_lt (Int.natCast_nonneg n) (by omega)

/-- `uint8(relSeq)` of a relative sequence number that passed the range check of `getRTTFromRelSeq` -/
theorem sackLookup_low8 {s : SackSt} {rel : Nat} {p : Sent} (hmax : s.cfg.max ≤ 255)
    (h : sackLookup s rel = some p) : rel % 256 = rel :=
  Nat.mod_eq_of_lt (Nat.lt_succ_of_le (Nat.le_trans (sackLookup_some h).2.1 hmax))

/-- `a - b` in an unsigned type of `M` values: reducing `a` first changes nothing -/
theorem sub_mod (a b : Nat) {M : Nat} (hM : 0 < M) : (a % M + M - b % M) % M = (a + M - b % M) % M := by
  have h := Nat.le_of_lt (Nat.mod_lt b hM)
  rw [Nat.add_sub_assoc h, Nat.add_sub_assoc h, Nat.mod_add_mod]

/-- `(c + n) - n` in such a type, computed as the trees spell it -/
theorem add_sub_mod (c n : Nat) {M : Nat} (hn : n < M) : ((c + n) % M + M - n % M) % M = c % M := by
  rw [sub_mod _ _ (Nat.zero_lt_of_lt hn), Nat.mod_eq_of_lt hn,
    show c + n + M - n = c + M by omega, Nat.add_mod_right]

end TRV.Proofs.TieCommon

/-! Big-endian reads of the regenerated trees (`Logic.be` on constant sub-slices) = `u16` / `u32` -/
namespace TRV.Proofs.BeNat
open TRV TRV.Logic

theorem be16_of_u16 {b : Bytes} {k v : Nat} (h : u16 b k = some v) : be ((b.drop k).take 2) 2 = v := by
  rw [be, List.take_take, Nat.min_self]
  exact (Option.some.inj ((u16_beNat (u16_len h)).symm.trans h))

theorem be32_of_u32 {b : Bytes} {k v : Nat} (h : u32 b k = some v) : be ((b.drop k).take 4) 4 = v := by
  rw [be, List.take_take, Nat.min_self]
  exact (Option.some.inj ((u32_beNat (u32_len h)).symm.trans h))

end TRV.Proofs.BeNat
