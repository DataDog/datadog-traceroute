import TRV.Model.Wire
import TRV.Proofs.Bytes
/-!
# The parser model: its decoders and `parse`

Per layered decoder of `TRV.Wire`: what a success says about the bytes (`_spec`, the reads under the
fields' names: `Ip4Reads`, `Icmp4Reads`, `TcpReads`, `Icmp6Reads`, `Ip6Reads`; the fields nothing reads back — `tos`,
`len`, `ttl`, `hop`, the TCP payload — are left out), and for `ip4`, `tcp`, `ip6` which
reads and guards make it succeed (`_of_reads`; `icmp4` and `icmp6` on a message written out:
`icmp4_hdr`, `icmp6_hdr` of `Proofs/Complete*.lean`).  `parse` succeeds exactly on `Parsed` (`parse_some`,
`parse_of_parsed`).
-/
namespace TRV.Proofs
open TRV TRV.Wire

theorem ip4Cut_eq_take (d : Bytes) (len : Nat) : ip4Cut d len = d.take len := by
  unfold ip4Cut
  split
  · rfl
  · exact (List.take_of_length_le (by omega)).symm

theorem ip4Len_of_pos {l : Nat} (h : 0 < l) (n : Nat) : ip4Len l n = l := by
  unfold ip4Len; rw [if_neg (by omega)]

theorem ip4Cut_window (d : Bytes) (len : Nat) : Window (ip4Cut d len) d 0 :=
  ip4Cut_eq_take d len ▸ Window.take d len

/-- what `ip4` read where to produce `r`; `b0` is the first byte (version and header length) -/
structure Ip4Reads (d : Bytes) (r : IP4) (b0 : Nat) : Prop where
  first : u8 d 0 = some b0
  ihl : r.ihl = b0 % 16
  ihl_ge : 5 ≤ r.ihl
  ihl_lt : r.ihl < 16
  id : u16 d 4 = some r.id
  ff : u16 d 6 = some r.ff
  proto : u8 d 9 = some r.proto
  src : r.src = slice d 12 4
  dst : r.dst = slice d 16 4
  length : 20 ≤ d.length
  payload : Window r.payload d (r.ihl * 4)

theorem ip4_spec {d : Bytes} {r : IP4} (h : ip4 d = some r) : ∃ b0, Ip4Reads d r b0 := by
  unfold ip4 at h
  obtain ⟨hlen, h⟩ := of_ite_none h
  split at h
  · rename_i b0 tos l id ff ttl pr hb0 htos hl hid hff httl hpr
    obtain ⟨_, h⟩ := of_ite_none h
    obtain ⟨h5, h⟩ := of_ite_none h
    obtain ⟨_, h⟩ := of_ite_none h
    obtain ⟨_, h⟩ := of_ite_none h
    obtain ⟨_, h⟩ := of_ite_none h
    cases h
    have hw := (Window.drop (ip4Cut d (ip4Len l d.length)) (b0 % 16 * 4)).trans (ip4Cut_window d _)
    rw [Nat.zero_add] at hw
    exact ⟨b0,
      { first := hb0, ihl := rfl, ihl_ge := Nat.le_of_not_lt h5, ihl_lt := Nat.mod_lt _ (by decide), id := hid,
        ff := hff, proto := hpr, src := rfl, dst := rfl, length := Nat.le_of_not_lt hlen, payload := hw }⟩
  · cases h

theorem ip4_of_reads {d : Bytes} {b0 ihl tos len id ff ttl proto : Nat}
    (h0 : u8 d 0 = some b0) (h1 : u8 d 1 = some tos) (h2 : u16 d 2 = some len) (h4 : u16 d 4 = some id)
    (h6 : u16 d 6 = some ff) (h8 : u8 d 8 = some ttl) (h9 : u8 d 9 = some proto)
    (hihl : b0 % 16 = ihl) (h5 : 5 ≤ ihl) (hlen : ihl * 4 ≤ len) (hd : ihl * 4 ≤ d.length)
    (hok : ip4OptsOK (ihl * 4 - 20) (slice d 20 (ihl * 4 - 20)) = true) :
    ip4 d = some { ihl, tos, len, id, ff, ttl, proto, src := slice d 12 4, dst := slice d 16 4,
                   payload := (d.take len).drop (ihl * 4) } := by
  have h20 : 20 ≤ ihl * 4 := Nat.mul_le_mul_right 4 h5
  -- the cut to the total length `len` keeps the header, and with it the option bytes
  have hsl : slice (d.take len) 20 (ihl * 4 - 20) = slice d 20 (ihl * 4 - 20) := by
    unfold slice; rw [List.take_drop, List.take_drop, List.take_take, Nat.add_sub_of_le h20, Nat.min_eq_left hlen]
  unfold ip4
  rw [if_neg (Nat.not_lt.mpr (Nat.le_trans h20 hd)), h0, h1, h2, h4, h6, h8, h9]
  simp only [hihl, ip4Len_of_pos (Nat.lt_of_lt_of_le (by decide) (Nat.le_trans h20 hlen)), ip4Cut_eq_take, hsl, hok,
    List.length_take]
  -- the decoder's guards, in its order
  rw [if_neg (Nat.not_lt.mpr (Nat.le_trans h20 hlen)), if_neg (Nat.not_lt.mpr h5), if_neg (Nat.not_lt.mpr hlen),
    if_neg (Nat.not_lt.mpr (Nat.le_min.mpr ⟨hlen, hd⟩))]
  rfl

structure Icmp4Reads (d : Bytes) (i : ICMP4) : Prop where
  type : u8 d 0 = some i.type
  code : u8 d 1 = some i.code
  id : u16 d 4 = some i.id
  seq : u16 d 6 = some i.seq
  payload : i.payload = d.drop 8
  length : 8 ≤ d.length

theorem icmp4_spec {d : Bytes} {i : ICMP4} (h : icmp4 d = some i) : Icmp4Reads d i := by
  unfold icmp4 at h
  obtain ⟨hlen, h⟩ := of_ite_none h
  split at h
  · rename_i h1 h2 h3 h4
    cases h
    exact { type := h1, code := h2, id := h3, seq := h4, payload := rfl, length := Nat.le_of_not_lt hlen }
  · cases h

/-- what `tcp` read where to produce `t`; `b12` is the byte holding the data offset -/
structure TcpReads (d : Bytes) (t : TCP) (b12 : Nat) : Prop where
  sport : u16 d 0 = some t.sport
  dport : u16 d 2 = some t.dport
  seq : u32 d 4 = some t.seq
  ack : u32 d 8 = some t.ack
  off : u8 d 12 = some b12
  flags : u8 d 13 = some t.flags
  optsLen : 20 + (b12 / 16 * 4 - 20) ≤ d.length
  opts : tcpOpts (b12 / 16 * 4 - 20) (slice d 20 (b12 / 16 * 4 - 20)) = some t.opts

theorem tcp_spec {d : Bytes} {t : TCP} (h : tcp d = some t) : ∃ b12, TcpReads d t b12 := by
  unfold tcp at h
  obtain ⟨hlen, h⟩ := of_ite_none h
  split at h
  · rename_i sp dp seq ack b12 fl h1 h2 h3 h4 h5 h6
    obtain ⟨hd5, h⟩ := of_ite_none h
    obtain ⟨hdl, h⟩ := of_ite_none h
    split at h
    · cases h
    rename_i opts hopts
    cases h
    refine ⟨b12,
      { sport := h1, dport := h2, seq := h3, ack := h4, off := h5, flags := h6, optsLen := ?_, opts := hopts }⟩
    rw [Nat.add_sub_of_le (Nat.mul_le_mul_right 4 (Nat.le_of_not_lt hd5))]
    exact Nat.le_of_not_gt hdl
  · cases h

theorem tcp_of_reads {d : Bytes} {sp dp seq ack b12 doff fl : Nat} {opts : List (Nat × Bytes)}
    (e0 : u16 d 0 = some sp) (e2 : u16 d 2 = some dp) (e4 : u32 d 4 = some seq) (e8 : u32 d 8 = some ack)
    (e12 : u8 d 12 = some b12) (e13 : u8 d 13 = some fl) (hdoff : b12 / 16 = doff) (h5 : 5 ≤ doff)
    (hd : doff * 4 ≤ d.length) (hok : tcpOpts (doff * 4 - 20) (slice d 20 (doff * 4 - 20)) = some opts) :
    tcp d = some { sport := sp, dport := dp, seq, ack, flags := fl, opts, payload := d.drop (doff * 4) } := by
  unfold tcp
  rw [if_neg (Nat.not_lt.mpr (Nat.le_trans (Nat.mul_le_mul_right 4 h5) hd)), e0, e2, e4, e8, e12, e13]
  simp only [hdoff, hok]
  rw [if_neg (Nat.not_lt.mpr h5), if_neg (Nat.not_lt.mpr hd)]

structure Icmp6Reads (d : Bytes) (i : ICMP6) : Prop where
  type : u8 d 0 = some i.type
  code : u8 d 1 = some i.code
  payload : i.payload = d.drop 4
  length : 4 ≤ d.length

theorem icmp6_spec {d : Bytes} {i : ICMP6} (h : icmp6 d = some i) : Icmp6Reads d i := by
  unfold icmp6 at h
  obtain ⟨hlen, h⟩ := of_ite_none h
  split at h
  · rename_i h1 h2
    cases h
    exact { type := h1, code := h2, payload := rfl, length := Nat.le_of_not_lt hlen }
  · cases h

/-- `payload`, three alternatives: no extension header (the payload starts at 40); a hop-by-hop
    header of `hl * 8 + 8` bytes, which gopacket strips (the payload starts behind it); a hop-by-hop
    header with a jumbo option, which gopacket leaves inside the payload, so that the payload starts
    at 40 and its first byte is the hop-by-hop header's next-header field (= `upper`). -/
structure Ip6Reads (d : Bytes) (r : IP6) : Prop where
  len : u16 d 4 = some r.len
  nextHeader : u8 d 6 = some r.nextHeader
  src : r.src = slice d 8 16
  dst : r.dst = slice d 24 16
  length : 40 ≤ d.length
  payload : (r.nextHeader ≠ 0 ∧ r.upper = r.nextHeader ∧ Window r.payload d 40) ∨
    (r.nextHeader = 0 ∧ ∃ hl, u8 d 40 = some r.upper ∧ u8 d 41 = some hl ∧
      (Window r.payload d (40 + hl * 8 + 8) ∨
        (Window r.payload d 40 ∧ (r.payload = [] ∨ u8 r.payload 0 = some r.upper))))

theorem ip6_spec {d : Bytes} {r : IP6} (h : ip6 d = some r) : Ip6Reads d r := by
  unfold ip6 at h
  obtain ⟨hlen, h⟩ := of_ite_none h
  split at h
  · rename_i len nh hop h1 h2 h3
    have hw40 : Window (d.drop 40) d 40 := Window.drop d 40
    rcases ite_cases h with ⟨hnh, h⟩ | ⟨hnh, h⟩
    · -- hop-by-hop
      obtain ⟨_, h⟩ := of_ite_none h
      split at h
      · rename_i hnext hlenb hh1 hh2
        obtain ⟨_, h⟩ := of_ite_none h
        have e1 := hw40.u8 hh1
        have e2 := hw40.u8 hh2
        split at h
        · cases h
        split at h
        · cases h
        · -- jumbo
          rename_i j hj
          rcases ite_cases h with ⟨_, h⟩ | ⟨_, h⟩
          · cases h
            refine ⟨h1, h2, rfl, rfl, Nat.le_of_not_lt hlen, Or.inr ⟨hnh, hlenb, e1, e2, Or.inr ⟨?_, ?_⟩⟩⟩
            · exact (Window.take (d.drop 40) j).trans hw40
            · by_cases hj0 : j = 0
              · left; simp [hj0]
              · right
                have hk : (List.take j (d.drop 40))[0]? = (d.drop 40)[0]? := by
                  rw [List.getElem?_take]; simp [Nat.pos_of_ne_zero hj0]
                unfold u8 at hh1 ⊢
                rw [hk]; exact hh1
          · cases h
        · obtain ⟨_, h⟩ := of_ite_none h
          cases h
          refine ⟨h1, h2, rfl, rfl, Nat.le_of_not_lt hlen, Or.inr ⟨hnh, hlenb, e1, e2, Or.inl ?_⟩⟩
          simpa [Nat.add_assoc] using ((Window.take ((d.drop 40).drop (hlenb * 8 + 8)) len).trans
            (Window.drop (d.drop 40) (hlenb * 8 + 8))).trans hw40
      · cases h
    · obtain ⟨_, h⟩ := of_ite_none h
      cases h
      refine ⟨h1, h2, rfl, rfl, Nat.le_of_not_lt hlen, Or.inl ⟨hnh, rfl, ?_⟩⟩
      exact (Window.take (d.drop 40) len).trans hw40
  · cases h

theorem ip6_of_reads {d : Bytes} {len nh hop : Nat} (hd : 40 ≤ d.length)
    (e4 : u16 d 4 = some len) (e6 : u8 d 6 = some nh) (e7 : u8 d 7 = some hop) (hnz : nh ≠ 0) (hl0 : len ≠ 0) :
    ip6 d = some { len, nextHeader := nh, hop, src := slice d 8 16, dst := slice d 24 16, upper := nh,
                   payload := (d.drop 40).take len } := by
  unfold ip6
  rw [if_neg (Nat.not_lt.mpr hd), e4, e6, e7]
  simp only [hnz, hl0, if_false]

theorem ip6_of_reads_hbh {d pl : Bytes} {len hop hnext hlen : Nat} {opts : List (Nat × Bytes)} (hd : 40 ≤ d.length)
    (e4 : u16 d 4 = some len) (e6 : u8 d 6 = some 0) (e7 : u8 d 7 = some hop) (hl0 : len ≠ 0) (hpl : d.drop 40 = pl)
    (p0 : u8 pl 0 = some hnext) (p1 : u8 pl 1 = some hlen) (hal : hlen * 8 + 8 ≤ pl.length)
    (htlv : hbhTLVs (hlen * 8 + 8) pl 2 (hlen * 8 + 8) = some opts) (hj : hbhJumbo opts = some none) :
    ip6 d = some { len, nextHeader := 0, hop, src := slice d 8 16, dst := slice d 24 16, upper := hnext,
                   payload := (pl.drop (hlen * 8 + 8)).take len } := by
  unfold ip6
  rw [if_neg (Nat.not_lt.mpr hd), e4, e6, e7]
  simp only [hpl, if_true]
  rw [if_neg (Nat.not_lt.mpr (Nat.le_trans (Nat.le_add_left 2 (hlen * 8 + 6)) hal)), p0, p1]
  simp only
  rw [if_neg (Nat.not_lt.mpr hal), htlv]
  simp only [hj, hl0, if_false]

/-- a successful `parse`: which decoders produced the two layers -/
inductive Parsed (buf : Bytes) : L3 → L4 → Prop
  | tcp4 {b0 : Nat} {hd : IP4} {t : TCP} : u8 buf 0 = some b0 → b0 / 16 = 4 → ip4 buf = some hd →
      hd.isFrag = false → hd.proto = 6 → tcp hd.payload = some t → Parsed buf (.v4 hd) (.tcp t)
  | icmp4 {b0 : Nat} {hd : IP4} {i : ICMP4} : u8 buf 0 = some b0 → b0 / 16 = 4 → ip4 buf = some hd →
      hd.isFrag = false → hd.proto = 1 → icmp4 hd.payload = some i → Parsed buf (.v4 hd) (.icmp4 i)
  | tcp6 {b0 : Nat} {hd : IP6} {t : TCP} : u8 buf 0 = some b0 → b0 / 16 = 6 → ip6 buf = some hd →
      hd.upper = 6 → tcp hd.payload = some t → Parsed buf (.v6 hd) (.tcp t)
  | icmp6 {b0 : Nat} {hd : IP6} {i : ICMP6} : u8 buf 0 = some b0 → b0 / 16 = 6 → ip6 buf = some hd →
      hd.upper = 58 → icmp6 hd.payload = some i → Parsed buf (.v6 hd) (.icmp6 i)

theorem parse_some {buf : Bytes} {l3 : L3} {l4 : L4} (h : parse buf = some (l3, l4)) : Parsed buf l3 l4 := by
  unfold parse at h
  split at h
  · cases h
  rename_i b0 hb0
  rcases ite_cases h with ⟨hv, h⟩ | ⟨_, h⟩
  · split at h
    · cases h
    rename_i hd hip
    obtain ⟨_, h⟩ := of_ite_none h
    obtain ⟨hfr, h⟩ := of_ite_none h
    rcases ite_cases h with ⟨hpr, h⟩ | ⟨_, h⟩
    · obtain ⟨t, ht, he⟩ := Option.map_eq_some_iff.mp h
      cases he
      exact .tcp4 hb0 hv hip (Bool.eq_false_iff.mpr hfr) hpr ht
    rcases ite_cases h with ⟨hpr, h⟩ | ⟨_, h⟩
    · obtain ⟨i, hi, he⟩ := Option.map_eq_some_iff.mp h
      cases he
      exact .icmp4 hb0 hv hip (Bool.eq_false_iff.mpr hfr) hpr hi
    cases h
  rcases ite_cases h with ⟨hv, h⟩ | ⟨_, h⟩
  · split at h
    · cases h
    rename_i hd hip
    obtain ⟨_, h⟩ := of_ite_none h
    rcases ite_cases h with ⟨hup, h⟩ | ⟨_, h⟩
    · obtain ⟨t, ht, he⟩ := Option.map_eq_some_iff.mp h
      cases he
      exact .tcp6 hb0 hv hip hup ht
    rcases ite_cases h with ⟨hup, h⟩ | ⟨_, h⟩
    · obtain ⟨i, hi, he⟩ := Option.map_eq_some_iff.mp h
      cases he
      exact .icmp6 hb0 hv hip hup hi
    cases h
  cases h

theorem ne_nil_of_decoded {α : Type} {f : Bytes → Option α} (h0 : f [] = none) {d : Bytes} {x : α} (h : f d = some x) :
    d ≠ [] := by
  rintro rfl; rw [h0] at h; cases h

/-- `parse`'s test for a second layer (payload not empty) is met: the second decoder accepted the payload -/
theorem parse_of_parsed {buf : Bytes} {l3 : L3} {l4 : L4} (h : Parsed buf l3 l4) : parse buf = some (l3, l4) := by
  unfold parse
  cases h with
  | tcp4 hb hv hip hfr hpr ht => simp [hb, hv, hip, ne_nil_of_decoded (f := tcp) rfl ht, hfr, hpr, ht]
  | icmp4 hb hv hip hfr hpr hi => simp [hb, hv, hip, ne_nil_of_decoded (f := icmp4) rfl hi, hfr, hpr, hi]
  | tcp6 hb hv hip hup ht => simp [hb, hv, hip, ne_nil_of_decoded (f := tcp) rfl ht, hup, ht]
  | icmp6 hb hv hip hup hi => simp [hb, hv, hip, ne_nil_of_decoded (f := icmp6) rfl hi, hup, hi]

theorem parse_iff {buf : Bytes} {l3 : L3} {l4 : L4} : parse buf = some (l3, l4) ↔ Parsed buf l3 l4 :=
  ⟨parse_some, parse_of_parsed⟩

theorem parse_v4_nibble {buf : Bytes} {h4 : IP4} {l4 : L4} (h : parse buf = some (.v4 h4, l4)) :
    ∃ b0, u8 buf 0 = some b0 ∧ b0 / 16 = 4 := by
  cases parse_some h with
  | tcp4 hb0 hv => exact ⟨_, hb0, hv⟩
  | icmp4 hb0 hv => exact ⟨_, hb0, hv⟩

/-- the version nibble of a packet is the one the matchers' read buffer shows -/
theorem version_take {pkt : Bytes} {v : Nat} (h : ∃ b0, u8 pkt 0 = some b0 ∧ b0 / 16 = v) :
    ∃ b0, u8 (pkt.take bufSize) 0 = some b0 ∧ b0 / 16 = v :=
  let ⟨b0, hb0, hv⟩ := h
  ⟨b0, (u8_take_of_lt (by decide)).trans hb0, hv⟩

theorem ne_nil_of_version {pkt : Bytes} {n v : Nat} (h : ∃ b0, u8 (pkt.take n) 0 = some b0 ∧ b0 / 16 = v) :
    pkt ≠ [] :=
  let ⟨_, hb0, _⟩ := h
  ne_nil_of_u8 (take_u8 hb0)

theorem parse_v4 {buf : Bytes} {l3 : L3} {l4 : L4} (h : parse buf = some (l3, l4))
    (hv : ∃ b0, u8 buf 0 = some b0 ∧ b0 / 16 = 4) : ∃ hd, l3 = .v4 hd := by
  obtain ⟨b0, hb0, hv⟩ := hv
  cases parse_some h with
  | tcp4 | icmp4 => exact ⟨_, rfl⟩
  | tcp6 hb hv6 | icmp6 hb hv6 => cases hb0.symm.trans hb; omega

theorem parse_v6 {buf : Bytes} {l3 : L3} {l4 : L4} (h : parse buf = some (l3, l4))
    (hv : ∃ b0, u8 buf 0 = some b0 ∧ b0 / 16 = 6) : ∃ hd, l3 = .v6 hd := by
  obtain ⟨b0, hb0, hv⟩ := hv
  cases parse_some h with
  | tcp6 | icmp6 => exact ⟨_, rfl⟩
  | tcp4 hb hv4 | icmp4 hb hv4 => cases hb0.symm.trans hb; omega

end TRV.Proofs
