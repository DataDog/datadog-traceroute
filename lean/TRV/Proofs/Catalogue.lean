import TRV.Proofs.Bytes
/-!
# The wire forms of the reply catalogue

Byte strings of the replies real devices send, with every header field — checksums included — a
parameter, so that statements about them cover rewritten TTL/TOS/checksum and stale checksums.
The forms without IPv4 or TCP options are the forms with options at header length 5 and no option
bytes (`rawHdr4_eq` … `tcpMsg4_eq`); theorems are proved about the general forms.
-/
namespace TRV.Proofs
open TRV

/-- an IPv4 header of `ihl` 32-bit words: the 20 fixed bytes followed by `opts` -/
def rawHdr4o (ihl tos len id ff ttl proto ck : Nat) (src dst opts : Bytes) : Bytes :=
  [byte (0x40 + ihl), byte tos] ++ be16 len ++ be16 id ++ be16 ff ++ [byte ttl, byte proto] ++ be16 ck ++ src ++ dst ++ opts

def rawHdr4 (tos len id ff ttl proto ck : Nat) (src dst : Bytes) : Bytes :=
  [byte 0x45, byte tos] ++ be16 len ++ be16 id ++ be16 ff ++ [byte ttl, byte proto] ++ be16 ck ++ src ++ dst

theorem rawHdr4_eq (tos len id ff ttl proto ck : Nat) (src dst : Bytes) :
    rawHdr4 tos len id ff ttl proto ck src dst = rawHdr4o 5 tos len id ff ttl proto ck src dst [] :=
  (List.append_nil _).symm

/-- an ICMPv4 message inside an IPv4 packet from `r` to `dst` whose header carries `oopts` -/
def icmpMsg4o (oihl otos oid ottl ock : Nat) (r dst oopts : Bytes) (ty code ick : Nat) (rest4 body : Bytes) : Bytes :=
  rawHdr4o oihl otos (oihl * 4 + 8 + body.length) oid 0 ottl 1 ock r dst oopts ++ (([byte ty, byte code] ++ be16 ick ++ rest4) ++ body)

/-- an ICMPv4 message (8-byte header: type, code, checksum, 4 further header bytes) around `body`,
    inside an option-less IPv4 packet from `r` to `dst`.  The bracketing of the message, here and in
    the three sibling forms, is the one `icmp_length` and `icmp4_hdr` (`Proofs/Complete.lean`) are
    stated on and matched against by `exact` / `rw`; `icmp6_hdr` (`Proofs/Complete6.lean`) brackets
    `([ty, code] ++ be16 ick) ++ rest` and its callers get there by `List.append_assoc`.  A new form
    has to repeat it literally. -/
def icmpMsg4 (otos oid ottl ock : Nat) (r dst : Bytes) (ty code ick : Nat) (rest4 body : Bytes) : Bytes :=
  rawHdr4 otos (28 + body.length) oid 0 ottl 1 ock r dst ++ (([byte ty, byte code] ++ be16 ick ++ rest4) ++ body)

theorem icmpMsg4_eq (otos oid ottl ock : Nat) (r dst : Bytes) (ty code ick : Nat) (rest4 body : Bytes) :
    icmpMsg4 otos oid ottl ock r dst ty code ick rest4 body =
      icmpMsg4o 5 otos oid ottl ock r dst [] ty code ick rest4 body := by
  rw [icmpMsg4, rawHdr4_eq]; rfl

/-- a TCP header of `doff` 32-bit words: the 20 fixed bytes followed by the option bytes `topts` -/
def rawTcpO (doff sp dp seq ack fl win ck urg : Nat) (topts : Bytes) : Bytes :=
  be16 sp ++ be16 dp ++ be32 seq ++ be32 ack ++ [byte (doff * 16), byte fl] ++ be16 win ++ be16 ck ++ be16 urg ++ topts

/-- a TCP header without options (data offset 5) whose every field is a parameter -/
def rawTcp (sp dp seq ack fl win ck urg : Nat) : Bytes :=
  be16 sp ++ be16 dp ++ be32 seq ++ be32 ack ++ [byte 0x50, byte fl] ++ be16 win ++ be16 ck ++ be16 urg

theorem rawTcp_eq (sp dp seq ack fl win ck urg : Nat) :
    rawTcp sp dp seq ack fl win ck urg = rawTcpO 5 sp dp seq ack fl win ck urg [] :=
  (List.append_nil _).symm

/-- the option bytes NOP NOP SACK(one block): what Linux answers to one out-of-order segment -/
def sackOpt (left right : Nat) : Bytes := [byte 1, byte 1, byte 5, byte 10] ++ be32 left ++ be32 right

theorem sackOpt_length (left right : Nat) : (sackOpt left right).length = 12 := by simp [sackOpt, be32, be16]

/-- a TCP header with data offset 8 carrying exactly that option -/
def rawTcpSack (sp dp seq ack fl win ck urg left right : Nat) : Bytes :=
  be16 sp ++ be16 dp ++ be32 seq ++ be32 ack ++ [byte 0x80, byte fl] ++ be16 win ++ be16 ck ++ be16 urg ++ sackOpt left right

theorem rawTcpSack_eq (sp dp seq ack fl win ck urg left right : Nat) :
    rawTcpSack sp dp seq ack fl win ck urg left right = rawTcpO 8 sp dp seq ack fl win ck urg (sackOpt left right) := rfl

/-- a TCP segment with TCP options inside an IPv4 packet whose header carries options -/
def tcpMsg4oo (oihl otos oid ff ottl ock : Nat) (src dst oopts : Bytes) (doff sp dp seq ack fl win ck urg : Nat) (topts pl : Bytes) : Bytes :=
  rawHdr4o oihl otos (oihl * 4 + (doff * 4 + pl.length)) oid ff ottl 6 ock src dst oopts ++ (rawTcpO doff sp dp seq ack fl win ck urg topts ++ pl)

/-- a TCP segment without TCP options inside an IPv4 packet whose header carries `oopts` -/
def tcpMsg4o (oihl otos oid ff ottl ock : Nat) (src dst oopts : Bytes) (sp dp seq ack fl win ck urg : Nat) (pl : Bytes) : Bytes :=
  rawHdr4o oihl otos (oihl * 4 + 20 + pl.length) oid ff ottl 6 ock src dst oopts ++ (rawTcp sp dp seq ack fl win ck urg ++ pl)

/-- a TCP segment without options inside an option-less IPv4 packet from `src` to `dst` (flags/fragment word
    `ff`: DF may be set) -/
def tcpMsg4 (otos oid ff ottl ock : Nat) (src dst : Bytes) (sp dp seq ack fl win ck urg : Nat) (pl : Bytes) : Bytes :=
  rawHdr4 otos (40 + pl.length) oid ff ottl 6 ock src dst ++ (rawTcp sp dp seq ack fl win ck urg ++ pl)

theorem tcpMsg4o_eq (oihl otos oid ff ottl ock : Nat) (src dst oopts : Bytes) (sp dp seq ack fl win ck urg : Nat) (pl : Bytes) :
    tcpMsg4o oihl otos oid ff ottl ock src dst oopts sp dp seq ack fl win ck urg pl =
      tcpMsg4oo oihl otos oid ff ottl ock src dst oopts 5 sp dp seq ack fl win ck urg [] pl := by
  rw [tcpMsg4o, rawTcp_eq, Nat.add_assoc]; rfl

theorem tcpMsg4_eq (otos oid ff ottl ock : Nat) (src dst : Bytes) (sp dp seq ack fl win ck urg : Nat) (pl : Bytes) :
    tcpMsg4 otos oid ff ottl ock src dst sp dp seq ack fl win ck urg pl =
      tcpMsg4oo 5 otos oid ff ottl ock src dst [] 5 sp dp seq ack fl win ck urg [] pl := by
  rw [tcpMsg4, rawHdr4_eq, rawTcp_eq, show 40 + pl.length = 5 * 4 + (5 * 4 + pl.length) by omega]; rfl

/-- IPv6 header: version 6 and EVERY value of the 28 traffic-class / flow-label bits, payload length,
    next header, hop limit, addresses.  The traffic class straddles bytes 0 and 1: `b1` carries its
    upper nibble in bits 8..11 (byte 0 is `0x60 + (b1 / 256) % 16`) and byte 1 in its low 8 bits, so
    quantifying over all `b1 b2 b3` covers every header a DSCP-rewriting router can produce. -/
def rawHdr6 (b1 b2 b3 plen nh hop : Nat) (src dst : Bytes) : Bytes :=
  [byte (0x60 + (b1 / 256) % 16), byte b1, byte b2, byte b3] ++ be16 plen ++ [byte nh, byte hop] ++ src ++ dst

theorem rawHdr6_length {b1 b2 b3 plen nh hop : Nat} {src dst : Bytes} (hs : src.length = 16) (hd : dst.length = 16) :
    (rawHdr6 b1 b2 b3 plen nh hop src dst).length = 40 := by
  simp [rawHdr6, be16, hs, hd]

/-- an ICMPv6 message (type, code, checksum, 4 further header bytes) around `body`, directly behind
    an IPv6 header from `r` to `dst` -/
def icmpMsg6 (ob1 ob2 ob3 ohop : Nat) (r dst : Bytes) (ty code ick : Nat) (rest4 body : Bytes) : Bytes :=
  rawHdr6 ob1 ob2 ob3 (8 + body.length) 58 ohop r dst ++ (([byte ty, byte code] ++ be16 ick ++ rest4) ++ body)

/-- an ICMPv6 message behind a hop-by-hop header `[58, hlen] ++ tlvs` -/
def icmpMsg6h (ob1 ob2 ob3 ohop : Nat) (r dst : Bytes) (hlen : Nat) (tlvs : Bytes) (ty code ick : Nat) (rest4 body : Bytes) : Bytes :=
  rawHdr6 ob1 ob2 ob3 (hlen * 8 + 8 + (8 + body.length)) 0 ohop r dst ++
    ([byte 58, byte hlen] ++ tlvs ++ (([byte ty, byte code] ++ be16 ick ++ rest4) ++ body))

end TRV.Proofs
