import TRV.Model.EngineLTS
import TRV.Proofs.Engine
/-! Invariants of the interleaving model of `TracerouteParallel`, each by induction over `Reach`:
only the step that touches the fields an invariant speaks of needs an argument. -/
namespace TRV.Proofs
open TRV.Engine TRV.LTS

theorem lts_params {minT maxT s} (h : Reach minT maxT s) : s.minT = minT ∧ s.maxT = maxT := by
  induction h with
  | init => exact ⟨rfl, rfl⟩
  | step _ st ih => cases st <;> exact ih

theorem slots_eq_merge {minT maxT s} (h : Reach minT maxT s) : s.slots = merge s.sigma := by
  induction h with
  | init => rfl
  | step _ st ih =>
    cases st with
    | recvAccept p => exact (congrArg (writeProbe · p) ih).trans (merge_snoc _ p).symm
    | _ => exact ih

theorem sigma_valid {minT maxT s} (h : Reach minT maxT s) :
    ∀ p ∈ s.sigma, validProbe minT maxT p = true := by
  induction h with
  | init => exact fun _ h => nomatch h
  | step hr st ih =>
    cases st with
    | recvAccept p _ _ hv =>
      obtain ⟨h1, h2⟩ := lts_params hr
      rw [h1, h2] at hv
      exact fun q hq => (List.mem_append.1 hq).elim (ih q) fun hq => List.mem_singleton.1 hq ▸ hv
    | _ => exact ih

/-- at most one probe is sent after the writer was cancelled: the one whose cancel test had already
    passed (`spc = .sending`) when the destination reply was written -/
theorem sends_after_cancel {minT maxT s} (h : Reach minT maxT s) :
    s.sendsAfterCancel ≤ 1 ∧ (s.sendsAfterCancel = 1 → s.spc ≠ .sending) ∧
    (s.cancelled = false → s.sendsAfterCancel = 0) ∧
    (s.cancelled = true → s.spc = .sending → s.sendsAfterCancel = 0) := by
  induction h with
  | init => exact ⟨Nat.zero_le 1, fun h => (nomatch h), fun _ => rfl, fun _ _ => rfl⟩
  | @step s _ _ st ih =>
    obtain ⟨h1, h2, h3, h4⟩ := ih
    cases st with
    | senderCheckGo _ _ hc =>
      -- the test is passed only while not cancelled, so nothing was sent after a cancellation yet
      exact ⟨h1, fun h => (nomatch (h3 hc ▸ h : 0 = 1)), h3, fun _ _ => h3 hc⟩
    | senderCheckStop => exact ⟨h1, fun _ h => (nomatch h), h3, fun _ h => (nomatch h)⟩
    | senderSend hs =>
      cases hc : s.cancelled with
      | false =>
        exact ⟨h1, fun _ h => (nomatch h), fun _ => h3 hc, fun h => (nomatch h)⟩
      | true =>
        -- the one probe in flight: none was counted before it
        simp only [h4 hc hs]
        exact ⟨Nat.le_refl 1, fun _ h => (nomatch h), fun h => (nomatch h), fun _ h => (nomatch h)⟩
    | recvAccept p =>
      cases hc : s.cancelled with
      | false => exact ⟨h1, h2, fun _ => h3 hc, fun _ _ => h3 hc⟩
      | true => exact ⟨h1, h2, fun h => (nomatch h), fun _ => h4 hc⟩
    | _ => exact ⟨h1, h2, h3, h4⟩

theorem sends_in_order {minT maxT s} (hv : minT ≤ maxT) (h : Reach minT maxT s) :
    s.sends = (List.range' minT (s.next - minT)).reverse ∧ minT ≤ s.next ∧
      (s.spc = .sending → s.next ≤ maxT) ∧ s.next ≤ maxT + 1 := by
  induction h with
  | init => exact ⟨by simp [init], Nat.le_refl _, fun h => (nomatch h), Nat.le_succ_of_le hv⟩
  | @step s _ hr st ih =>
    obtain ⟨h1, h2, h3, h4⟩ := ih
    cases st with
    | senderCheckGo _ hn => exact ⟨h1, h2, fun _ => (lts_params hr).2 ▸ hn, h4⟩
    | senderCheckStop => exact ⟨h1, h2, fun h => (nomatch h), h4⟩
    | senderSend hs =>
      have hn := h3 hs
      refine ⟨?_, Nat.le_succ_of_le h2, fun h => (nomatch h), Nat.succ_le_succ hn⟩
      show s.next :: s.sends = _
      rw [h1, show s.next + 1 - minT = (s.next - minT) + 1 by omega, List.range'_concat,
        List.reverse_append, show minT + 1 * (s.next - minT) = s.next by omega]
      rfl
    | _ => exact ⟨h1, h2, h3, h4⟩

end TRV.Proofs
