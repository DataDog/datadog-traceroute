import TRV.Spec.Engine
/-!
Lemmas about the engine models (C03, C05, C07, C13): the slot rule (`merge` is `best`), what `best`
selects, the two engines' loops as folds of `writeProbe` (read off a successful run: `recvLoop_ok`;
established for outcome lists without faults: `recvLoop_clean`, `serialLoop_windows`), the slot
invariant and the cut, and the last stage `clipResults` / `ToHops`.
-/
namespace TRV.Proofs
open TRV.Engine TRV.Spec

theorem validParams_iff {min max : Nat} : validParams min max = true ↔ min ≤ max ∧ 1 ≤ min := by
  simp [validParams]

theorem validProbe_iff {min max : Nat} {p : Probe} :
    validProbe min max p = true ↔ min ≤ p.ttl ∧ p.ttl ≤ max := by
  simp [validProbe]

theorem firstDest_cons (p : Probe) (σ : List Probe) (t : Nat) :
    firstDest (p :: σ) t = if p.ttl = t ∧ p.dest = true then some p else firstDest σ t := by
  unfold firstDest
  rw [List.find?_cons]
  cases h : decide (p.ttl = t) && p.dest <;> simp_all

theorem firstAny_cons (p : Probe) (σ : List Probe) (t : Nat) :
    firstAny (p :: σ) t = if p.ttl = t then some p else firstAny σ t := by
  unfold firstAny
  rw [List.find?_cons]
  cases h : decide (p.ttl = t) <;> simp_all

/-- what a slot already holding `a` becomes after the sequence σ -/
def after (a : Option Probe) (σ : List Probe) (t : Nat) : Option Probe :=
  match a with
  | none => best σ t
  | some prev => if prev.dest then some prev else
      match firstDest σ t with
      | some p => some p
      | none => some prev

theorem foldl_after (σ : List Probe) : ∀ (acc : Slots) (t : Nat),
    (σ.foldl writeProbe acc) t = after (acc t) σ t := by
  induction σ with
  | nil => intro acc t; cases h : acc t <;> simp [after, best, firstDest, firstAny, h]
  | cons p σ ih =>
    intro acc t
    rw [List.foldl_cons, ih]
    -- one more write is absorbed: `after (writeProbe acc p t) σ t = after (acc t) (p :: σ) t`
    simp only [writeProbe, after, best, firstDest_cons, firstAny_cons]
    by_cases ht : p.ttl = t
    · subst ht
      cases acc p.ttl with
      | none => cases hd : p.dest <;> cases firstDest σ p.ttl <;> simp [hd]
      | some prev => cases hpd : prev.dest <;> cases hd : p.dest <;> simp [hpd, hd]
    · cases acc t <;> simp [ht, Ne.symm ht]

theorem merge_eq_best (σ : List Probe) (t : Nat) : merge σ t = best σ t :=
  foldl_after σ emptySlots t

theorem merge_snoc (σ : List Probe) (p : Probe) : merge (σ ++ [p]) = writeProbe (merge σ) p := by
  simp [merge, List.foldl_append]

theorem firstDest_some {σ : List Probe} {t : Nat} {d : Probe} (h : firstDest σ t = some d) :
    d ∈ σ ∧ d.ttl = t ∧ d.dest = true :=
  ⟨List.mem_of_find?_eq_some h, by simpa using List.find?_some h⟩

theorem firstAny_some {σ : List Probe} {t : Nat} {q : Probe} (h : firstAny σ t = some q) :
    q ∈ σ ∧ q.ttl = t :=
  ⟨List.mem_of_find?_eq_some h, by simpa using List.find?_some h⟩

theorem firstDest_eq_none {σ : List Probe} {t : Nat} :
    firstDest σ t = none ↔ ∀ p ∈ σ, p.ttl = t → p.dest = false := by
  simp [firstDest]

theorem firstAny_eq_none {σ : List Probe} {t : Nat} : firstAny σ t = none ↔ ∀ p ∈ σ, p.ttl ≠ t := by
  simp [firstAny]

theorem best_some {σ : List Probe} {t : Nat} {p : Probe} (h : best σ t = some p) : p ∈ σ ∧ p.ttl = t := by
  unfold best at h
  split at h
  · exact Option.some.inj h ▸ ⟨(firstDest_some ‹_›).1, (firstDest_some ‹_›).2.1⟩
  · exact firstAny_some h

theorem best_eq_none_iff {σ : List Probe} {t : Nat} : best σ t = none ↔ ∀ p ∈ σ, p.ttl ≠ t := by
  unfold best
  cases hd : firstDest σ t with
  | some d => exact ⟨nofun, fun h => absurd (firstDest_some hd).2.1 (h d (firstDest_some hd).1)⟩
  | none => exact firstAny_eq_none

theorem best_isDest (σ : List Probe) (t : Nat) : isDestSlot (best σ t) = destAnswered σ t := by
  unfold best destAnswered
  cases hfd : firstDest σ t with
  | some d =>
    have ⟨hm, ht, hd⟩ := firstDest_some hfd
    rw [List.any_eq_true.2 ⟨d, hm, by simp [ht, hd]⟩]
    exact hd
  | none =>
    rw [firstDest_eq_none] at hfd
    rw [List.any_eq_false.2 fun p hp => by simpa using hfd p hp]
    cases hfa : firstAny σ t with
    | none => rfl
    | some q => exact hfd q (firstAny_some hfa).1 (firstAny_some hfa).2

theorem best_none_of_outside {σ : List Probe} {min max t : Nat}
    (hv : ∀ p ∈ σ, validProbe min max p = true) (ht : t < min ∨ max < t) : best σ t = none := by
  rw [best_eq_none_iff]
  intro p hp hpt
  have := validProbe_iff.1 (hv p hp)
  omega

theorem all_reflected (σ : List Probe) (p : Probe) (hp : p ∈ σ) :
    ∃ q, merge σ p.ttl = some q ∧ q ∈ σ ∧ q.ttl = p.ttl ∧ (p.dest = true → q.dest = true) := by
  rw [merge_eq_best]
  cases hq : best σ p.ttl with
  | none => exact absurd rfl (best_eq_none_iff.1 hq p hp)
  | some q =>
    refine ⟨q, rfl, (best_some hq).1, (best_some hq).2, fun hd => ?_⟩
    have := best_isDest σ p.ttl
    rw [hq, destAnswered, List.any_eq_true.2 ⟨p, hp, by simp [hd]⟩] at this
    exact this

theorem firstDest_of_firstAny {σ : List Probe} {t : Nat} {q : Probe} (h : firstAny σ t = some q)
    (hd : q.dest = true) : firstDest σ t = some q := by
  induction σ with
  | nil => exact nomatch h
  | cons p σ ih =>
    rw [firstAny_cons] at h
    rw [firstDest_cons]
    by_cases hp : p.ttl = t
    · cases (if_pos hp).symm.trans h
      exact if_pos ⟨hp, hd⟩
    · exact (if_neg fun h' => hp h'.1).trans (ih ((if_neg hp).symm.trans h))

theorem best_eq_firstAny {σ : List Probe} (h : σ.Pairwise fun p q => p.ttl ≠ q.ttl) (t : Nat) :
    best σ t = firstAny σ t := by
  induction σ with
  | nil => rfl
  | cons p σ ih =>
    rw [List.pairwise_cons] at h
    by_cases hp : p.ttl = t
    · have : firstDest σ t = none :=
        firstDest_eq_none.2 fun q hq hqt => absurd (hp.trans hqt.symm) (h.1 q hq)
      cases hd : p.dest <;> simp [best, firstDest_cons, firstAny_cons, hp, hd, this]
    · simpa [best, firstDest_cons, firstAny_cons, hp] using ih h.2

theorem recvLoop_ok {min max : Nat} {outs : List ROut} {s s' : Slots}
    (h : recvLoop min max s outs = .ok s') :
    s' = (accepted outs).foldl writeProbe s ∧ ∀ p ∈ accepted outs, validProbe min max p = true := by
  fun_induction recvLoop min max s outs with
  | case1 => exact ⟨(Except.ok.inj h).symm, by simp [accepted]⟩
  | case2 _ _ ih => exact ih h
  | case3 | case4 | case6 => nomatch h
  | case5 s p rest hv ih =>
    have ⟨h1, h2⟩ := ih h
    exact ⟨h1, List.forall_mem_cons.2 ⟨hv, h2⟩⟩

theorem recvLoop_error {min max : Nat} {outs : List ROut} {s : Slots} {e : RunErr}
    (h : recvLoop min max s outs = .error e) : e = .recvFailed ∨ e = .badProbe := by
  fun_induction recvLoop min max s outs with
  | case1 => nomatch h
  | case2 _ _ ih | case5 _ _ _ _ ih => exact ih h
  | case3 => exact .inl (Except.error.inj h).symm
  | case4 | case6 => exact .inr (Except.error.inj h).symm

theorem serialWindow_valid {min max : Nat} {w : List ROut} {p : Probe}
    (h : serialWindow min max w = .ok (some p)) : validProbe min max p = true := by
  fun_induction serialWindow min max w with
  | case1 | case3 | case4 | case6 => nomatch h
  | case2 _ ih => exact ih h
  | case5 q _ hv => exact Option.some.inj (Except.ok.inj h) ▸ hv

theorem parallelRun_ok_iff {min max : Nat} {outs : List ROut} {se ec : Bool}
    {r : List (Option Probe)} :
    parallelRun min max true outs se ec = .ok r ↔
      validParams min max = true ∧ se = false ∧ ec = false ∧
      ∃ s, recvLoop min max emptySlots outs = .ok s ∧ clipList min (slotList max s) = some r := by
  unfold parallelRun
  cases validParams min max
  · simp
  · cases recvLoop min max emptySlots outs with
    | error e => simp
    | ok s =>
      cases se
      · cases ec
        · cases h : clipList min (slotList max s) <;> simp [h]
        · simp
      · simp

theorem serialRun_ok_iff {min max : Nat} {ws : List (List ROut)} {se ec : Bool}
    {r : List (Option Probe)} :
    serialRun min max ws se ec = .ok r ↔
      validParams min max = true ∧ se = false ∧ ec = false ∧
      ∃ s, serialLoop min max emptySlots ws = .ok s ∧ clipList min (slotList max s) = some r := by
  unfold serialRun
  cases validParams min max
  · simp
  · cases serialLoop min max emptySlots ws with
    | error e => simp
    | ok s =>
      cases se
      · cases ec
        · cases h : clipList min (slotList max s) <;> simp [h]
        · simp
      · simp

/-- no fault among the outcomes (retries allowed) -/
def Clean (outs : List ROut) : Prop := ∀ o ∈ outs, o = .retry ∨ ∃ p, o = .accept p

theorem clean_nil : Clean [] := fun _ h => nomatch h

theorem clean_cons {o : ROut} {outs : List ROut} :
    Clean (o :: outs) ↔ (o = .retry ∨ ∃ p, o = .accept p) ∧ Clean outs := List.forall_mem_cons

theorem clean_append {a b : List ROut} : Clean (a ++ b) ↔ Clean a ∧ Clean b := List.forall_mem_append

theorem accepted_append (a b : List ROut) : accepted (a ++ b) = accepted a ++ accepted b := by
  induction a with
  | nil => rfl
  | cons o a ih => cases o <;> simp [accepted, ih]

theorem accepted_map_accept (σ : List Probe) : accepted (σ.map .accept) = σ := by
  induction σ with
  | nil => rfl
  | cons p σ ih => simp [accepted, ih]

theorem recvLoop_clean {min max : Nat} (post : List ROut) : ∀ (pre : List ROut) (s : Slots), Clean pre →
    (∀ p ∈ accepted pre, validProbe min max p = true) →
    recvLoop min max s (pre ++ post) = recvLoop min max ((accepted pre).foldl writeProbe s) post := by
  intro pre
  induction pre with
  | nil => intro s _ _; rfl
  | cons o pre ih =>
    intro s hc hv
    obtain ⟨ho, hc'⟩ := clean_cons.1 hc
    rcases ho with rfl | ⟨p, rfl⟩
    · exact ih s hc' hv
    · have hvp : validProbe min max p = true := hv p (List.mem_cons_self ..)
      simp only [List.cons_append, recvLoop, hvp, accepted, List.foldl_cons]
      exact ih _ hc' (fun q hq => hv q (List.mem_cons_of_mem _ hq))

theorem serialWindow_noise {min max : Nat} (w : List ROut) : ∀ k : Nat,
    serialWindow min max (List.replicate k .retry ++ w) = serialWindow min max w
  | 0 => rfl
  | k + 1 => serialWindow_noise w k

/-- The serial engine merges the replies of its windows (`W t` holding `f t`), provided no window
    before the last holds a destination reply and windows follow the last only if it does. -/
theorem serialLoop_windows {min max : Nat} {W : Nat → List ROut} {f : Nat → Option Probe} {c : Nat}
    {extra : List (List ROut)} (hc : serialWindow min max (W c) = .ok (f c))
    (hlast : extra = [] ∨ ∃ p, f c = some p ∧ p.dest = true) : ∀ (ts : List Nat) (s : Slots),
    (∀ t ∈ ts, serialWindow min max (W t) = .ok (f t) ∧ ∀ p, f t = some p → p.dest = false) →
    serialLoop min max s ((ts ++ [c]).map W ++ extra) =
      .ok (((ts ++ [c]).filterMap f).foldl writeProbe s) := by
  intro ts
  induction ts with
  | nil =>
    intro s _
    simp only [List.nil_append, List.map_cons, List.cons_append, serialLoop, hc]
    rcases hlast with rfl | ⟨p, hp, hd⟩
    · cases hf : f c with
      | none => simp [serialLoop, hf]
      | some p => cases hd : p.dest <;> simp [serialLoop, hf, hd, serialWrite]
    · simp [hp, hd, serialWrite]
  | cons t ts ih =>
    intro s h
    obtain ⟨hw, hnd⟩ := h t (List.mem_cons_self ..)
    have ih' := fun s => ih s (fun u hu => h u (List.mem_cons_of_mem _ hu))
    simp only [List.cons_append, List.map_cons, serialLoop, hw]
    cases hf : f t with
    | none => simpa [hf] using ih' s
    | some p => simpa [hf, hnd p hf, serialWrite] using ih' _

/-- engine invariant on the slot array: a filled slot `t` holds a probe whose TTL is `t`, within
    `[min, max]` -/
def SlotInv (min max : Nat) (s : Slots) : Prop :=
  ∀ t p, s t = some p → p.ttl = t ∧ min ≤ t ∧ t ≤ max

theorem emptySlots_inv (min max : Nat) : SlotInv min max emptySlots :=
  fun _ _ h => nomatch h

theorem writeProbe_inv {min max : Nat} {s : Slots} {p : Probe} (hinv : SlotInv min max s)
    (hv : validProbe min max p = true) : SlotInv min max (writeProbe s p) := by
  intro t q hq
  have hp : t = p.ttl → p.ttl = t ∧ min ≤ t ∧ t ≤ max := by
    rintro rfl; exact ⟨rfl, validProbe_iff.1 hv⟩
  unfold writeProbe at hq
  split at hq
  · split at hq
    · exact Option.some.inj hq ▸ hp ‹_›
    · split at hq
      · exact Option.some.inj hq ▸ hp ‹_›
      · exact Option.some.inj hq ▸ hinv t _ ‹_›
  · exact hinv t q hq

theorem writeProbe_empty {s : Slots} {p : Probe} (h : s p.ttl = none) :
    writeProbe s p = fun t => if t = p.ttl then some p else s t := by
  funext t
  unfold writeProbe
  by_cases ht : t = p.ttl
  · subst ht; simp [h]
  · simp [ht]

theorem foldl_writeProbe_inv {min max : Nat} : ∀ (σ : List Probe) (s : Slots), SlotInv min max s →
    (∀ p ∈ σ, validProbe min max p = true) → SlotInv min max (σ.foldl writeProbe s)
  | [], _, hi, _ => hi
  | p :: σ, _, hi, hv =>
    foldl_writeProbe_inv σ _ (writeProbe_inv hi (hv p List.mem_cons_self))
      fun q hq => hv q (List.mem_cons_of_mem _ hq)

theorem serialLoop_inv {min max : Nat} {ws : List (List ROut)} {s s' : Slots}
    (hi : SlotInv min max s) (h : serialLoop min max s ws = .ok s') : SlotInv min max s' := by
  -- the cases of `serialLoop`: no window left; the window fails, is empty, holds a destination reply, another reply
  fun_induction serialLoop min max s ws
  case case1 => exact Except.ok.inj h ▸ hi
  case case2 => nomatch h
  case case3 ih => exact ih hi h
  case case4 hp _ _ => exact Except.ok.inj h ▸ writeProbe_inv hi (serialWindow_valid hp)
  case case5 hp _ _ ih => exact ih (writeProbe_inv hi (serialWindow_valid hp)) h

theorem range_find?_getD {q : Nat → Bool} {max c : Nat}
    (h : ((List.range (max + 1)).find? q).getD max = c) :
    c ≤ max ∧ (∀ t, t < c → q t = false) ∧ (c < max → q c = true) := by
  subst h
  cases h : (List.range (max + 1)).find? q with
  | none =>
    rw [List.find?_range_eq_none] at h
    exact ⟨Nat.le_refl _, fun t ht => by simpa using h t (Nat.lt_succ_of_lt ht), fun h => absurd h (Nat.lt_irrefl _)⟩
  | some d =>
    rw [List.find?_range_eq_some] at h
    exact ⟨Nat.le_of_lt_succ (List.mem_range.1 h.2.1), fun t ht => by simpa using h.2.2 t ht, fun _ => h.1⟩

/-- first destination slot, or `max` -/
def slotCut (s : Slots) (max : Nat) : Nat :=
  ((List.range (max+1)).find? (fun t => isDestSlot (s t))).getD max

theorem slotCut_le (s : Slots) (max : Nat) : slotCut s max ≤ max :=
  (range_find?_getD rfl).1

theorem slotCut_first (s : Slots) (max : Nat) : ∀ t, t < slotCut s max → isDestSlot (s t) = false :=
  (range_find?_getD rfl).2.1

theorem slotCut_dest {s : Slots} {max : Nat} (h : slotCut s max < max) :
    isDestSlot (s (slotCut s max)) = true :=
  (range_find?_getD rfl).2.2 h

theorem slotCut_ge {s : Slots} {min max : Nat} (hmin : min ≤ max) (hinv : SlotInv min max s) :
    min ≤ slotCut s max := by
  rcases Nat.lt_or_ge (slotCut s max) max with hlt | hge
  · have := slotCut_dest hlt
    cases hs : s (slotCut s max) with
    | none => simp [hs, isDestSlot] at this
    | some p => exact (hinv _ p hs).2.1
  · exact Nat.le_trans hmin hge

theorem slotCut_eq {s : Slots} {max c : Nat} (hc : c ≤ max)
    (hfirst : ∀ t, t < c → isDestSlot (s t) = false) (hdest : c < max → isDestSlot (s c) = true) :
    slotCut s max = c := by
  have h1 := slotCut_le s max
  rcases Nat.lt_trichotomy (slotCut s max) c with h | h | h
  · have := hfirst _ h
    rw [slotCut_dest (by omega)] at this
    exact nomatch this
  · exact h
  · have := slotCut_first s max _ h
    rw [hdest (by omega)] at this
    exact nomatch this

theorem cutOf_eq_slotCut (σ : List Probe) (max : Nat) : cutOf σ max = slotCut (merge σ) max := by
  unfold cutOf lowestDest slotCut
  congr 3
  funext t
  rw [merge_eq_best, best_isDest]

theorem cutOf_le (σ : List Probe) (max : Nat) : cutOf σ max ≤ max :=
  cutOf_eq_slotCut σ max ▸ slotCut_le _ max

theorem findIdx?_range (q : Nat → Bool) (n : Nat) :
    (List.range n).findIdx? q = (List.range n).find? q := by
  ext i
  rw [List.findIdx?_eq_some_iff_getElem, List.find?_range_eq_some]
  simp only [List.getElem_range, List.length_range, List.mem_range, Bool.not_eq_true,
    Bool.not_eq_eq_eq_not]
  exact ⟨fun ⟨h, h1, h2⟩ => ⟨h1, h, h2⟩, fun ⟨h1, h, h2⟩ => ⟨h, h1, h2⟩⟩

theorem clip_slotList {min max : Nat} {s : Slots} (hmin : min ≤ max)
    (hlow : ∀ t, t < min → s t = none) :
    clipList min (slotList max s) = some ((List.range' min (slotCut s max + 1 - min)).map s) := by
  -- what is kept are the slots `0 .. c` for the cut `c`; dropping those below `min` is the same in both cases
  have tail : ∀ c, min ≤ c →
      (if min ≤ ((List.range (c + 1)).map s).length then some (((List.range (c + 1)).map s).drop min) else none)
        = some ((List.range' min (c + 1 - min)).map s) := by
    intro c hc
    rw [List.length_map, List.length_range, if_pos (by omega), ← List.map_drop, List.range_eq_range',
      List.drop_range']
    simp
  unfold clipList slotList slotCut
  rw [List.findIdx?_map, findIdx?_range, show (isDestSlot ∘ s) = fun t => isDestSlot (s t) from rfl]
  have ⟨hle, _, hdest⟩ := range_find?_getD (q := fun t => isDestSlot (s t)) (max := max) rfl
  cases h : (List.range (max+1)).find? (fun t => isDestSlot (s t)) with
  | none => exact tail max hmin
  | some d =>
    rw [h, Option.getD_some] at hle hdest
    have hmd : min ≤ d := by
      rcases Nat.lt_or_ge d min with hlt | hge
      · exact nomatch (hlow d hlt ▸ hdest (by omega) : isDestSlot none = true)
      · exact hge
    simp only [← List.map_take, List.take_range, Nat.min_eq_left (Nat.succ_le_succ hle)]
    exact tail d hmd
/-- the hop `ToHops` makes out of slot `t` -/
def hopOf (t : Nat) : Option Probe → Hop
  | none => { ttl := t, ip := [], rtt := 0, dest := false }
  | some p => { ttl := t, ip := p.ip, rtt := p.rtt, dest := p.dest }

theorem hopOf_dest (t : Nat) (o : Option Probe) : (hopOf t o).dest = isDestSlot o := by
  cases o <;> rfl

theorem hopOf_ttl (t : Nat) (o : Option Probe) : (hopOf t o).ttl = t := by
  cases o <;> rfl

theorem toHops_map {f : Nat → Option Probe} (hf : ∀ t p, f t = some p → p.ttl = t) :
    ∀ (n min : Nat), toHops min ((List.range' min n).map f) =
      some ((List.range' min n).map (fun t => hopOf t (f t))) := by
  intro n
  induction n with
  | zero => intro min; simp [toHops]
  | succ n ih =>
    intro min
    simp only [List.range'_succ, List.map_cons]
    cases h : f min with
    | none => simp [toHops, ih (min+1), hopOf]
    | some p =>
      have := hf _ _ h
      simp [toHops, ih (min+1), hopOf, this]

theorem shape_of_cut {f : Nat → Option Probe} {min cut : Nat} (hmc : min ≤ cut)
    (hfirst : ∀ t, t < cut → isDestSlot (f t) = false) :
    shapeOK min cut ((List.range' min (cut + 1 - min)).map (fun t => hopOf t (f t))) = true := by
  unfold shapeOK
  simp only [List.length_map, List.length_range', Bool.and_eq_true, beq_iff_eq,
    List.all_eq_true, List.mem_range, Bool.not_eq_true', List.isEmpty_eq_false_iff]
  refine ⟨⟨?_, trivial⟩, ?_⟩
  · intro h
    have := congrArg List.length h
    simp at this; omega
  · intro i hi
    have : ((List.range' min (cut + 1 - min)).map (fun t => hopOf t (f t)))[i]? =
        some (hopOf (min + i) (f (min + i))) := by
      simp [hi]
    rw [this]
    simp only [hopOf_ttl, beq_self_eq_true, Bool.true_and, hopOf_dest, Bool.or_eq_true,
      Bool.not_eq_true', beq_iff_eq]
    by_cases hlast : i + 1 = cut + 1 - min
    · right; exact hlast
    · left; exact hfirst _ (by omega)

/-- C03 core: for every slot array satisfying the engine invariant, `clipResults` does not panic (it
    returns the slots `min .. slotCut`), `ToHops` does not take its error branch on them, and the hop
    list has the path shape -/
theorem clip_shape {min max : Nat} {s : Slots} (hmin : min ≤ max) (hinv : SlotInv min max s) :
    clipList min (slotList max s) = some ((List.range' min (slotCut s max + 1 - min)).map s) ∧
    ∃ hops, toHops min ((List.range' min (slotCut s max + 1 - min)).map s) = some hops ∧
      shapeOK min (slotCut s max) hops = true := by
  have hlow : ∀ t, t < min → s t = none := by
    intro t ht
    cases h : s t with
    | none => rfl
    | some p => have := (hinv t p h).2.1; omega
  exact ⟨clip_slotList hmin hlow, _, toHops_map (fun t p h => (hinv t p h).1) _ _,
    shape_of_cut (slotCut_ge hmin hinv) (slotCut_first s max)⟩

theorem merge_inv {min max : Nat} {σ : List Probe} (hv : ∀ p ∈ σ, validProbe min max p = true) :
    SlotInv min max (merge σ) :=
  foldl_writeProbe_inv σ _ (emptySlots_inv min max) hv

/-- the spec's result is `clipResults` of the merged slots -/
theorem expected_eq (min max : Nat) (σ : List Probe) :
    expected min max σ = (List.range' min (slotCut (merge σ) max + 1 - min)).map (merge σ) := by
  rw [expected, cutOf_eq_slotCut]
  exact List.map_congr_left fun t _ => (merge_eq_best σ t).symm

theorem expected_length (min max : Nat) (σ : List Probe) :
    (expected min max σ).length = cutOf σ max + 1 - min := by
  rw [expected, List.length_map, List.length_range']

theorem expected_getElem? {min max : Nat} {σ : List Probe} {i : Nat} (h : i < cutOf σ max + 1 - min) :
    (expected min max σ)[i]? = some (best σ (min + i)) := by
  rw [expected, List.getElem?_map, List.getElem?_range' h, Nat.one_mul]
  rfl

theorem parallel_result {min max : Nat} {outs : List ROut} {se ec : Bool} {r : List (Option Probe)}
    (h : parallelRun min max true outs se ec = .ok r) :
    r = expected min max (accepted outs) ∧ min ≤ max ∧ ∀ p ∈ accepted outs, validProbe min max p = true := by
  obtain ⟨hvp, _, _, s, hs, hclip⟩ := parallelRun_ok_iff.1 h
  obtain ⟨rfl, hv⟩ := recvLoop_ok hs
  have hvp := validParams_iff.1 hvp
  cases hclip.symm.trans (clip_shape hvp.1 (merge_inv hv)).1
  exact ⟨(expected_eq ..).symm, hvp.1, hv⟩

end TRV.Proofs
