import TRV.Spec.Net
import TRV.Proofs.Engine
/-! Helper lemmas for C13 (abstract network composed with the engine models).

Both engines end with `merge σ` in their slot array, `σ` being the accepted replies: the parallel
engine for any `σ` with the same members as `replies … min last`, the serial one for
`replies … min (Nat.min (destTTL n min) max)` itself.  `merge_pathSlots` says that such a slot array
follows the path, `pathSlots_result` that `clipResults` and `ToHops` turn it into `expectedHops`. -/
namespace TRV.Proofs.Net
open TRV TRV.Engine TRV.Spec TRV.Proofs TRV.Net TRV.Spec.Net

theorem forward_router (D : Reply) {r : Router} : ∀ {rs : List Router} {t : Nat}, 1 ≤ t →
    rs[t - 1]? = some r → forward D rs t = if r.silent then none else some (.timeExceeded r.addr)
  | _ :: _, 1, _, h => by cases h; rfl
  | _ :: rs, t + 2, _, h => forward_router D (rs := rs) (t := t + 1) (Nat.succ_pos t) h
  | [], _, _, h => nomatch h

theorem forward_dest (D : Reply) : ∀ {rs : List Router} {t : Nat}, rs.length + 1 ≤ t →
    forward D rs t = some D
  | [], _ + 1, _ => rfl
  | _ :: rs, t + 2, h => forward_dest D (rs := rs) (t := t + 1) (by simpa using h)
  | _ :: _, 1, h => by simp at h

theorem forward_zero (D : Reply) (rs : List Router) : forward D rs 0 = none := by
  cases rs <;> rfl

theorem router_at {n : Net} {t : Nat} (h1 : 1 ≤ t) (h2 : t ≤ n.routers.length) :
    ∃ r, n.routers[t - 1]? = some r :=
  ⟨_, List.getElem?_eq_getElem (by omega)⟩

def WF (n : Net) : Prop := ∀ r ∈ n.routers, r.addr ≠ n.dest.addr

/-- the TTL a destination answer is attributed to -/
def ttlOf (v : Variant) (low : Nat → Nat) (t : Nat) : Nat := if v = .sack then low t else t

section
variable {n : Net} {v : Variant} {low : Nat → Nat} {tm : Timing} {t : Nat}

theorem seenAt_router {r : Router} (hwf : WF n) (h1 : 1 ≤ t) (hr : n.routers[t - 1]? = some r) :
    seenAt n v low tm t =
      if r.silent then none else some (.probe { ttl := t, ip := r.addr, rtt := rttOf tm t t, dest := false }) := by
  have hne : r.addr ≠ n.dest.addr := hwf r (List.mem_of_getElem? hr)
  unfold seenAt respond
  rw [forward_router _ h1 hr]
  cases r.silent <;> cases v <;> simp [seen, hne]

theorem seenAt_dest (hv : v = .sack → n.dest.sackEnabled = true) (ht : n.routers.length + 1 ≤ t) :
    seenAt n v low tm t = some (.probe
      { ttl := ttlOf v low t, ip := n.dest.addr, rtt := rttOf tm t (ttlOf v low t), dest := true }) := by
  unfold seenAt respond
  rw [forward_dest _ ht]
  cases v with
  | tcpSyn => cases hp : n.dest.port <;> simp [destReply, seen, ttlOf, hp]
  | sack => simp [destReply, seen, ttlOf, hv rfl]
  | _ => simp [destReply, seen, ttlOf]

theorem seenAt_plainAck (hs : n.dest.sackEnabled = false) (ht : n.routers.length + 1 ≤ t) :
    seenAt n .sack low tm t = some .notSupported := by
  unfold seenAt respond
  rw [forward_dest _ ht]
  simp [destReply, seen, hs]

theorem seenAt_supported (hwf : WF n) (hv : v = .sack → n.dest.sackEnabled = true) :
    seenAt n v low tm t ≠ some .notSupported := by
  rcases Nat.lt_or_ge n.routers.length t with hgt | hle
  · simp [seenAt_dest hv hgt]
  · rcases Nat.eq_zero_or_pos t with rfl | h1
    · simp [seenAt, respond, forward_zero]
    · obtain ⟨r, hr⟩ := router_at h1 hle
      rw [seenAt_router hwf h1 hr]
      split <;> simp

theorem probeAt_router {r : Router} (hwf : WF n) (h1 : 1 ≤ t) (hr : n.routers[t - 1]? = some r) :
    probeAt n v low tm t =
      if r.silent then none else some { ttl := t, ip := r.addr, rtt := rttOf tm t t, dest := false } := by
  unfold probeAt
  rw [seenAt_router hwf h1 hr]
  cases r.silent <;> rfl

theorem probeAt_dest (hv : v = .sack → n.dest.sackEnabled = true) (ht : n.routers.length + 1 ≤ t) :
    probeAt n v low tm t =
      some { ttl := ttlOf v low t, ip := n.dest.addr, rtt := rttOf tm t (ttlOf v low t), dest := true } := by
  unfold probeAt
  rw [seenAt_dest hv ht]

theorem outAt_router {r : Router} (hwf : WF n) (h1 : 1 ≤ t) (hr : n.routers[t - 1]? = some r) :
    outAt n v low tm t =
      if r.silent then [] else [.accept { ttl := t, ip := r.addr, rtt := rttOf tm t t, dest := false }] := by
  unfold outAt
  rw [seenAt_router hwf h1 hr]
  cases r.silent <;> rfl

theorem outAt_dest (hv : v = .sack → n.dest.sackEnabled = true) (ht : n.routers.length + 1 ≤ t) :
    outAt n v low tm t =
      [.accept { ttl := ttlOf v low t, ip := n.dest.addr, rtt := rttOf tm t (ttlOf v low t), dest := true }] := by
  unfold outAt
  rw [seenAt_dest hv ht]

theorem outAt_plainAck (hs : n.dest.sackEnabled = false) (ht : n.routers.length + 1 ≤ t) :
    outAt n .sack low tm t = [.fatal] := by
  unfold outAt
  rw [seenAt_plainAck hs ht]

end

/-- the model spells `min` as `Nat.min`, which `omega` and the library's lemmas do not see through -/
theorem natMin_eq (a b : Nat) : Nat.min a b = Min.min a b := rfl

theorem mem_ttls {min last u : Nat} : u ∈ ttls min last ↔ min ≤ u ∧ u ≤ last := by
  unfold ttls; rw [List.mem_range'_1]; omega

theorem ttls_concat {min last : Nat} (h : min ≤ last) :
    ttls min last = List.range' min (last - min) ++ [last] := by
  unfold ttls
  rw [Nat.succ_sub h, List.range'_concat, Nat.one_mul, Nat.add_sub_cancel' h]

theorem destTTL_le {n : Net} {min t : Nat} :
    destTTL n min ≤ t ↔ min ≤ t ∧ n.routers.length + 1 ≤ t := Nat.max_le

theorem destTTL_ge_min (n : Net) (min : Nat) : min ≤ destTTL n min := Nat.le_max_left ..
theorem destTTL_gt_len (n : Net) (min : Nat) : n.routers.length + 1 ≤ destTTL n min := Nat.le_max_right ..

/-- the last TTL sent -/
theorem lastTTL_le (n : Net) (min max : Nat) :
    Nat.min (destTTL n min) max ≤ destTTL n min ∧ Nat.min (destTTL n min) max ≤ max :=
  ⟨Nat.min_le_left .., Nat.min_le_right ..⟩

theorem lastTTL_eq_dest {n : Net} {min max : Nat} (h : destTTL n min ≤ max) :
    Nat.min (destTTL n min) max = destTTL n min := Nat.min_eq_left h

theorem routerHop_dest (n : Net) (t : Nat) : (routerHop n t).dest = false := by
  unfold routerHop; split <;> rfl

theorem routerHop_ttl (n : Net) (t : Nat) : (routerHop n t).ttl = t := by
  unfold routerHop; split <;> rfl

theorem erase_dest (h : Hop) : (erase h).dest = h.dest := rfl

theorem expectedHops_eq_map (n : Net) (min max : Nat) :
    expectedHops n min max = (List.range' min (Nat.min (destTTL n min) max + 1 - min)).map
      (fun t => if t < destTTL n min then routerHop n t else destHop n t) := by
  have hmd := destTTL_ge_min n min
  have hrouters : ∀ k, k ≤ destTTL n min → (List.range' min (k - min)).map (routerHop n) =
      (List.range' min (k - min)).map (fun t => if t < destTTL n min then routerHop n t else destHop n t) := by
    intro k hk
    apply List.map_congr_left
    intro t ht
    rw [List.mem_range'_1] at ht
    rw [if_pos (by omega)]
  simp only [expectedHops, natMin_eq]
  by_cases hle : destTTL n min ≤ max
  · rw [if_pos hle, Nat.min_eq_left (Nat.le_succ_of_le hle), Nat.min_eq_left hle,
      show List.range' min (destTTL n min + 1 - min) = ttls min (destTTL n min) from rfl,
      ttls_concat hmd, List.map_append, hrouters _ (Nat.le_refl _)]
    simp
  · have hlt : max + 1 ≤ destTTL n min := Nat.lt_of_not_le hle
    rw [if_neg hle, List.append_nil, Nat.min_eq_right hlt, Nat.min_eq_right (Nat.le_of_succ_le hlt)]
    exact hrouters _ hlt

theorem expectedHops_length (n : Net) (min max : Nat) :
    (expectedHops n min max).length = Nat.min (destTTL n min) max + 1 - min := by
  rw [expectedHops_eq_map, List.length_map, List.length_range']

theorem expectedHops_entry {n : Net} {min max i : Nat} {h : PHop}
    (hi : (expectedHops n min max)[i]? = some h) :
    min + i < destTTL n min ∧ h = routerHop n (min + i) ∨
    min + i = destTTL n min ∧ destTTL n min ≤ max ∧ h = destHop n (destTTL n min) := by
  have hlt := (List.getElem?_eq_some_iff.mp hi).1
  have ⟨hcd, hcm⟩ := lastTTL_le n min max
  rw [expectedHops_length] at hlt
  rw [expectedHops_eq_map, List.getElem?_map, List.getElem?_range' hlt, Nat.one_mul] at hi
  cases hi
  by_cases hr : min + i < destTTL n min
  · exact Or.inl ⟨hr, if_pos hr⟩
  · obtain hd : min + i = destTTL n min := by omega
    exact Or.inr ⟨hd, by omega, (if_neg hr).trans (by rw [hd])⟩

/-- the slot array holds, for every probed TTL below the first one that reaches the destination,
    that router's reply (nothing where silent), and the destination's reply at that TTL -/
structure PathSlots (n : Net) (min max : Nat) (s : Slots) : Prop where
  low : ∀ t, t < min → s t = none
  ttl : ∀ t p, s t = some p → p.ttl = t
  router : ∀ t, min ≤ t → t ≤ max → t < destTTL n min → erase (hopOf t (s t)) = routerHop n t
  dest : destTTL n min ≤ max → ∃ p, s (destTTL n min) = some p ∧ p.ip = n.dest.addr ∧ p.dest = true
  rtt : ∀ t p, s t = some p → 0 ≤ p.rtt

theorem pathSlots_noDest {n : Net} {min max : Nat} {s : Slots} (h : PathSlots n min max s)
    (t : Nat) (ht : t ≤ max) (htd : t < destTTL n min) : isDestSlot (s t) = false := by
  rcases Nat.lt_or_ge t min with hlt | hge
  · rw [h.low t hlt]; rfl
  · calc isDestSlot (s t) = (hopOf t (s t)).dest := (hopOf_dest t _).symm
      _ = (routerHop n t).dest := congrArg PHop.dest (h.router t hge ht htd)
      _ = false := routerHop_dest n t

theorem pathSlots_cut {n : Net} {min max : Nat} {s : Slots} (h : PathSlots n min max s) :
    slotCut s max = Nat.min (destTTL n min) max := by
  have ⟨hcd, hcm⟩ := lastTTL_le n min max
  refine slotCut_eq hcm (fun t ht => pathSlots_noDest h t (by omega) (by omega)) fun hlt => ?_
  have hle : destTTL n min ≤ max := by rw [natMin_eq] at hlt; omega
  obtain ⟨p, hp, _, hpd⟩ := h.dest hle
  rw [lastTTL_eq_dest hle, hp]; exact hpd

theorem pathSlots_result {n : Net} {min max : Nat} {s : Slots} (hmm : min ≤ max)
    (h : PathSlots n min max s) :
    ∃ r hops, clipList min (slotList max s) = some r ∧ toHops min r = some hops ∧
      hops.map erase = expectedHops n min max ∧ ∀ h ∈ hops, 0 ≤ h.rtt := by
  have hclip := clip_slotList (s := s) (max := max) hmm h.low
  rw [pathSlots_cut h] at hclip
  refine ⟨_, _, hclip, toHops_map h.ttl _ _, ?_, ?_⟩
  · -- entry by entry: `PathSlots.router` below `destTTL`, `PathSlots.dest` at it
    rw [expectedHops_eq_map, List.map_map]
    apply List.map_congr_left
    intro t ht
    rw [List.mem_range'_1] at ht
    have ⟨hcd, hcm⟩ := lastTTL_le n min max
    by_cases hlt : t < destTTL n min
    · rw [if_pos hlt]; exact h.router t ht.1 (by omega) hlt
    · obtain rfl : t = destTTL n min := by omega
      obtain ⟨p, hp, hip, hpd⟩ := h.dest (by omega)
      rw [if_neg hlt, Function.comp_apply, hp]
      simp only [hopOf, erase, destHop, hip, hpd]
  · intro x hx
    obtain ⟨t, _, rfl⟩ := List.mem_map.mp hx
    cases hs : s t with
    | none => simp [hopOf]
    | some p => simpa [hopOf] using h.rtt t p hs

theorem mem_replies {n : Net} {v : Variant} {low : Nat → Nat} {tm : Timing} {min last : Nat} {p : Probe} :
    p ∈ replies n v low tm min last ↔ ∃ u, min ≤ u ∧ u ≤ last ∧ probeAt n v low tm u = some p := by
  simp only [replies, List.mem_filterMap, mem_ttls, and_assoc]

/-- everything the path theorems assume about one run (a serial run is one too: `parRun_syn`) -/
structure ParRun (n : Net) (v : Variant) (low : Nat → Nat) (tm : Timing) (min max last : Nat) : Prop where
  wf : WF n
  sackOn : v = .sack → n.dest.sackEnabled = true
  lowOK : v = .sack → LowOK n min low
  timing : tm.OK
  min1 : 1 ≤ min
  minLast : min ≤ last
  lastMax : last ≤ max
  sentAll : last = max ∨ destTTL n min ≤ last

theorem rttOf_nonneg {tm : Timing} (htm : tm.OK) {t u : Nat} (h : u ≤ t) : 0 ≤ rttOf tm t u := by
  have := htm.1 u t h
  have := htm.2 t
  simp only [rttOf]; omega

section
variable {n : Net} {v : Variant} {low : Nat → Nat} {tm : Timing} {min max last : Nat}

theorem ttlOf_bounds (R : ParRun n v low tm min max last) {u : Nat} (hu : destTTL n min ≤ u) :
    destTTL n min ≤ ttlOf v low u ∧ ttlOf v low u ≤ u := by
  unfold ttlOf
  split
  · next hv => exact (R.lowOK hv).1 u hu
  · exact ⟨hu, Nat.le_refl u⟩

theorem probeAt_cases (R : ParRun n v low tm min max last) {u : Nat} {p : Probe} (h1 : min ≤ u)
    (hp : probeAt n v low tm u = some p) :
    0 ≤ p.rtt ∧ p.ttl ≤ u ∧
      (u < destTTL n min ∧ p.ttl = u ∧ p.dest = false ∨
       destTTL n min ≤ p.ttl ∧ p.dest = true ∧ p.ip = n.dest.addr) := by
  have hmin1 := R.min1
  rcases Nat.lt_or_ge n.routers.length u with hgt | hle
  · rw [probeAt_dest R.sackOn hgt] at hp
    cases hp
    obtain ⟨hlo, hhi⟩ := ttlOf_bounds R (destTTL_le.mpr ⟨h1, hgt⟩)
    exact ⟨rttOf_nonneg R.timing hhi, hhi, Or.inr ⟨hlo, rfl, rfl⟩⟩
  · obtain ⟨r, hr⟩ := router_at (by omega) hle
    rw [probeAt_router R.wf (by omega) hr] at hp
    split at hp
    · cases hp
    · cases hp
      exact ⟨rttOf_nonneg R.timing (Nat.le_refl u), Nat.le_refl u,
        Or.inl ⟨Nat.lt_of_le_of_lt hle (destTTL_gt_len n min), rfl, rfl⟩⟩

theorem reply_valid (R : ParRun n v low tm min max last) {u : Nat} {p : Probe} (h1 : min ≤ u)
    (h2 : u ≤ last) (hp : probeAt n v low tm u = some p) : validProbe min max p = true := by
  have := R.lastMax
  have := destTTL_ge_min n min
  have : min ≤ p.ttl ∧ p.ttl ≤ max := by
    obtain ⟨_, _, h | h⟩ := probeAt_cases R h1 hp <;> omega
  exact validProbe_iff.2 this

theorem erase_hopOf_probeAt {t : Nat} (hwf : WF n) (h1 : 1 ≤ t) (h2 : t ≤ n.routers.length) :
    erase (hopOf t (probeAt n v low tm t)) = routerHop n t := by
  obtain ⟨r, hr⟩ := router_at h1 h2
  rw [probeAt_router hwf h1 hr]
  simp only [routerHop, hr]
  cases r.silent <;> rfl

/-! What slot `t` holds once the replies to the probes `min..last` were merged, in whatever order and
however often each was delivered (`σ` has the members of `replies … min last`).  A reply attributed to
a TTL below `destTTL` is that router's own and one attributed to `destTTL` is the destination's
(`probeAt_cases`), so it does not matter which of the replies for a TTL the merge kept. -/

theorem merge_router (R : ParRun n v low tm min max last) {σ : List Probe}
    (hmem : ∀ p, p ∈ σ ↔ p ∈ replies n v low tm min last) {t : Nat}
    (h1 : min ≤ t) (h2 : t ≤ last) (h3 : t < destTTL n min) : merge σ t = probeAt n v low tm t := by
  rw [merge_eq_best]
  cases hb : best σ t with
  | some q =>
    obtain ⟨hq, ht⟩ := best_some hb
    obtain ⟨u, hu1, _, hu⟩ := mem_replies.1 ((hmem q).mp hq)
    obtain ⟨_, _, h | h⟩ := probeAt_cases R hu1 hu
    · obtain rfl : u = t := by omega
      exact hu.symm
    · omega
  | none =>
    cases hpa : probeAt n v low tm t with
    | none => rfl
    | some p =>
      obtain ⟨_, _, h | h⟩ := probeAt_cases R h1 hpa
      · obtain ⟨q, hq, _⟩ := all_reflected σ p ((hmem p).mpr (mem_replies.2 ⟨t, h1, h2, hpa⟩))
        rw [merge_eq_best, h.2.1, hb] at hq; cases hq
      · omega

theorem merge_dest (R : ParRun n v low tm min max last) {σ : List Probe}
    (hmem : ∀ p, p ∈ σ ↔ p ∈ replies n v low tm min last)
    (hd : destTTL n min ≤ last) :
    ∃ p, merge σ (destTTL n min) = some p ∧ p.ip = n.dest.addr ∧ p.dest = true := by
  -- the answer to probe `destTTL` is attributed to `destTTL`, so the slot is filled
  have hpd := probeAt_dest (low := low) (tm := tm) R.sackOn (destTTL_gt_len n min)
  have hpt := ttlOf_bounds R (Nat.le_refl (destTTL n min))
  rw [Nat.le_antisymm hpt.2 hpt.1] at hpd
  obtain ⟨q, hq, hqm, hqt, _⟩ :=
    all_reflected σ _ ((hmem _).mpr (mem_replies.2 ⟨_, destTTL_ge_min n min, hd, hpd⟩))
  obtain ⟨u, hu1, _, hu⟩ := mem_replies.1 ((hmem q).mp hqm)
  obtain ⟨_, _, h | h⟩ := probeAt_cases R hu1 hu
  · have : q.ttl = destTTL n min := hqt
    omega
  · exact ⟨q, hq, h.2.2, h.2.1⟩

theorem replies_valid (R : ParRun n v low tm min max last) {σ : List Probe}
    (hmem : ∀ p, p ∈ σ ↔ p ∈ replies n v low tm min last) :
    ∀ p ∈ σ, validProbe min max p = true := fun p hp => by
  obtain ⟨u, h1, h2, hu⟩ := mem_replies.1 ((hmem p).mp hp)
  exact reply_valid R h1 h2 hu

theorem merge_pathSlots (R : ParRun n v low tm min max last) {σ : List Probe}
    (hmem : ∀ p, p ∈ σ ↔ p ∈ replies n v low tm min last) :
    PathSlots n min max (merge σ) := by
  have hbest : ∀ {t p}, merge σ t = some p → p ∈ σ ∧ p.ttl = t := fun h => by
    rw [merge_eq_best] at h; exact best_some h
  -- every probe up to `destTTL` was sent
  have hlast : ∀ t, t ≤ max → t ≤ destTTL n min → t ≤ last := fun t _ _ => by
    rcases R.sentAll with e | e <;> omega
  refine ⟨fun t ht => ?_, fun t p hp => (hbest hp).2, fun t h1 h2 h3 => ?_,
    fun hdm => merge_dest R hmem (hlast _ hdm (Nat.le_refl _)), fun t p hp => ?_⟩
  · rw [merge_eq_best]; exact best_none_of_outside (replies_valid R hmem) (Or.inl ht)
  · have := @destTTL_le n min t
    have := R.min1
    rw [merge_router R hmem h1 (hlast t h2 (Nat.le_of_lt h3)) h3]
    exact erase_hopOf_probeAt R.wf (by omega) (by omega)
  · obtain ⟨u, hu1, _, hu⟩ := mem_replies.1 ((hmem p).mp (hbest hp).1)
    exact (probeAt_cases R hu1 hu).1

theorem merge_trace (R : ParRun n v low tm min max last) {σ : List Probe}
    (hmem : ∀ p, p ∈ σ ↔ p ∈ replies n v low tm min last) :
    ∃ r hops, clipList min (slotList max (merge σ)) = some r ∧ toHops min r = some hops ∧
      hops.map erase = expectedHops n min max ∧ ∀ h ∈ hops, 0 ≤ h.rtt :=
  pathSlots_result (Nat.le_trans R.minLast R.lastMax) (merge_pathSlots R hmem)

theorem parallel_trace (R : ParRun n v low tm min max last) {outs : List ROut} (hc : Clean outs)
    (hmem : ∀ p, p ∈ accepted outs ↔ p ∈ replies n v low tm min last) :
    ∃ r hops, parallelRun min max true outs false false = .ok r ∧ toHops min r = some hops ∧
      hops.map erase = expectedHops n min max ∧ ∀ h ∈ hops, 0 ≤ h.rtt := by
  obtain ⟨r, hops, hclip, rest⟩ := merge_trace R hmem
  have hloop := recvLoop_clean [] outs emptySlots hc (replies_valid R hmem)
  rw [List.append_nil] at hloop
  exact ⟨r, hops,
    parallelRun_ok_iff.2 ⟨validParams_iff.2 ⟨Nat.le_trans R.minLast R.lastMax, R.min1⟩, rfl, rfl, _, hloop, hclip⟩,
    rest⟩

end

section
variable {n : Net} {tm : Timing} {min max : Nat}

theorem serialWindow_outAt {v : Variant} {low : Nat → Nat} {t k : Nat}
    (hs : seenAt n v low tm t ≠ some .notSupported)
    (hv : ∀ p, probeAt n v low tm t = some p → validProbe min max p = true) :
    serialWindow min max (List.replicate k .retry ++ outAt n v low tm t) = .ok (probeAt n v low tm t) := by
  rw [serialWindow_noise]
  unfold outAt probeAt at *
  cases h : seenAt n v low tm t with
  | none => rfl
  | some x =>
    cases x with
    | probe p => simp [serialWindow, hv p (by rw [h])]
    | notSupported => exact absurd h hs
    | ignored => rfl

theorem parRun_syn (hwf : WF n) (htm : tm.OK) (h1 : 1 ≤ min) (hmm : min ≤ max) :
    ParRun n .tcpSyn id tm min max (Nat.min (destTTL n min) max) where
  wf := hwf
  sackOn := nofun
  lowOK := nofun
  timing := htm
  min1 := h1
  minLast := Nat.le_min.mpr ⟨destTTL_ge_min n min, hmm⟩
  lastMax := Nat.min_le_right ..
  sentAll := by rw [natMin_eq]; omega

theorem serialLoop_syn {noise : Nat → Nat} (hwf : WF n) (htm : tm.OK) (h1 : 1 ≤ min) (hmm : min ≤ max)
    (extra : List (List ROut)) (hextra : max < destTTL n min → extra = []) :
    serialLoop min max emptySlots (synWindows n tm noise min max ++ extra) =
      .ok (merge (replies n .tcpSyn id tm min (Nat.min (destTTL n min) max))) := by
  have R := parRun_syn hwf htm h1 hmm
  have hcd := (lastTTL_le n min max).1
  have hmc := R.minLast
  -- the window of a sent TTL `t` holds the network's reply to probe `t`
  have hwin : ∀ t, min ≤ t → t ≤ Nat.min (destTTL n min) max →
      serialWindow min max (synWindow n tm noise t) = .ok (probeAt n .tcpSyn id tm t) := by
    intro t ht1 ht2
    exact serialWindow_outAt (seenAt_supported hwf nofun)
      (fun p => reply_valid R ht1 ht2)
  -- windows and replies are `synWindow` and `probeAt` over the TTLs sent: those before the last, and the last
  unfold synWindows replies merge
  rw [ttls_concat hmc]
  refine serialLoop_windows (W := synWindow n tm noise) (f := probeAt n .tcpSyn id tm)
    (hwin _ hmc (Nat.le_refl _)) ?_ (List.range' min (Nat.min (destTTL n min) max - min)) emptySlots ?_
  · rcases Nat.lt_or_ge max (destTTL n min) with hgt | hle
    · exact Or.inl (hextra hgt)
    · rw [lastTTL_eq_dest hle]
      exact Or.inr ⟨_, probeAt_dest nofun (destTTL_gt_len n min), rfl⟩
  · intro t ht
    rw [List.mem_range'_1] at ht
    refine ⟨hwin t ht.1 (by omega), fun p hp => ?_⟩
    obtain ⟨_, _, h | h⟩ := probeAt_cases R ht.1 hp
    · exact h.2.2
    · omega

theorem serial_trace {noise : Nat → Nat} (hwf : WF n) (htm : tm.OK) (h1 : 1 ≤ min) (hmm : min ≤ max)
    (extra : List (List ROut)) (hextra : max < destTTL n min → extra = []) :
    ∃ r hops, serialRun min max (synWindows n tm noise min max ++ extra) false false = .ok r ∧
      toHops min r = some hops ∧ hops.map erase = expectedHops n min max ∧ ∀ h ∈ hops, 0 ≤ h.rtt := by
  obtain ⟨r, hops, hclip, rest⟩ := merge_trace (parRun_syn hwf htm h1 hmm) (fun _ => Iff.rfl)
  exact ⟨r, hops,
    serialRun_ok_iff.2 ⟨validParams_iff.2 ⟨hmm, h1⟩, rfl, rfl, _, serialLoop_syn hwf htm h1 hmm extra hextra, hclip⟩,
    rest⟩

end

section
variable {n : Net} {v : Variant} {low : Nat → Nat} {tm : Timing} {min max last : Nat}

theorem outAt_probeAt {t : Nat} (hs : seenAt n v low tm t ≠ some .notSupported) :
    Clean (outAt n v low tm t) ∧ accepted (outAt n v low tm t) = (probeAt n v low tm t).toList := by
  unfold outAt probeAt
  cases h : seenAt n v low tm t with
  | none => exact ⟨clean_nil, rfl⟩
  | some x =>
    cases x with
    | probe p => exact ⟨fun o ho => Or.inr ⟨p, List.mem_singleton.mp ho⟩, rfl⟩
    | notSupported => exact absurd h hs
    | ignored => exact ⟨fun o ho => Or.inl (List.mem_singleton.mp ho), rfl⟩

theorem parallelOuts_spec (hwf : WF n) (hv : v = .sack → n.dest.sackEnabled = true) :
    Clean (parallelOuts n v low tm min last) ∧
      accepted (parallelOuts n v low tm min last) = replies n v low tm min last := by
  unfold parallelOuts replies
  induction ttls min last with
  | nil => exact ⟨clean_nil, rfl⟩
  | cons t ts ih =>
    obtain ⟨c1, a1⟩ := outAt_probeAt (seenAt_supported (low := low) (tm := tm) (t := t) hwf hv)
    obtain ⟨c2, a2⟩ := ih
    rw [List.flatMap_cons, accepted_append, a1, a2, List.filterMap_cons]
    refine ⟨clean_append.2 ⟨c1, c2⟩, ?_⟩
    cases probeAt n v low tm t <;> rfl

theorem oracleTiming_ok : oracleTiming.OK :=
  ⟨fun _ _ h => Nat.mul_le_mul_right _ h, fun _ => Nat.le_add_right ..⟩

theorem lowInOrder_ok (n : Net) (min : Nat) : LowOK n min (lowInOrder n min) :=
  ⟨fun _ ht => ⟨Nat.le_refl _, ht⟩, rfl⟩

theorem runEngine_spec (hwf : WF n)
    (hv : v = .sack → n.dest.sackEnabled = true) (h1 : 1 ≤ min) (hmm : min ≤ max) :
    ∃ hops, runEngine n v oracleTiming min max = some hops ∧
      hops.map erase = expectedHops n min max ∧ ∀ h ∈ hops, 0 ≤ h.rtt := by
  by_cases hs : v = .tcpSyn
  · subst hs
    obtain ⟨r, hops, h2, h3, rest⟩ :=
      serial_trace (noise := fun _ => 0) hwf oracleTiming_ok h1 hmm [] (fun _ => rfl)
    rw [List.append_nil] at h2
    exact ⟨hops, by simp [runEngine, h2, h3], rest⟩
  · have R : ParRun n v (lowInOrder n min) oracleTiming min max max :=
      { wf := hwf, sackOn := hv, lowOK := (fun _ => lowInOrder_ok n min), timing := oracleTiming_ok,
        min1 := h1, minLast := hmm, lastMax := Nat.le_refl _, sentAll := Or.inl rfl }
    obtain ⟨hc, ha⟩ := parallelOuts_spec (low := lowInOrder n min) (tm := oracleTiming) (min := min) (last := max) hwf hv
    obtain ⟨r, hops, h2, h3, rest⟩ := parallel_trace R hc (fun p => by rw [ha])
    refine ⟨hops, ?_, rest⟩
    cases v <;> first | exact absurd rfl hs | simp [runEngine, h2, h3]

end

end TRV.Proofs.Net
