import TRV.Spec.Genuine
import TRV.Proofs.Bytes
/-!
# What the genuineness predicates say

`Spec.genuine*` are executable (`Bool`) so that the harness can evaluate them.  Each gets ONE
Prop-level reading here — the raw reads it performs and every condition it imposes, in the order of
the definition.  Soundness proves the right-hand side from the decoded view; isolation, the
cross-protocol signatures, destination marking and the composition with the capture filters read it
off the left-hand side.  In front of them, the single bytes the signatures and the filter composition
need from a successful read: all of `view4`'s (`view4_spec`), the ICMP type of `quote4`/`quote6`, the
next-header byte of `view6` on a packet without hop-by-hop header.
-/
namespace TRV.Proofs
open TRV TRV.Spec TRV.Drv

theorem u32_of_raw {p : Bytes} {off : Nat} {x : Bytes} (h : raw p off 4 = some x) :
    u32 p off = some (beNat x) := by
  obtain ⟨hl, hx⟩ := Option.ite_none_right_eq_some.mp h
  cases hx
  exact u32_beNat hl

theorem portsAt_some {p : Bytes} {k a b : Nat} (h : portsAt p k = some (a, b)) :
    u16 p k = some a ∧ u16 p (k + 2) = some b := by
  unfold portsAt at h
  split at h
  · rename_i ha hb
    cases h; exact ⟨ha, hb⟩
  · cases h

theorem quote4_type {p : Bytes} {l4 : Nat} {q : Quote4} (h : quote4 p l4 = some q) :
    u8 p l4 = some q.icmpType := by
  unfold quote4 at h
  split at h
  · rename_i h1 _ _ _ _ _ _
    cases h; exact h1
  · cases h

theorem quote6_type {p : Bytes} {o : Nat} {q : Quote6} (h : quote6 p o = some q) :
    u8 p o = some q.icmpType := by
  unfold quote6 at h
  split at h
  · rename_i h1 _ _ _ _ _ _
    obtain ⟨_, h⟩ := of_ite_none h
    rcases ite_cases h with ⟨_, h⟩ | ⟨_, h⟩
    · split at h
      · cases h; exact h1
      · cases h
    · cases h; exact h1
  · cases h

/-- what `view4` read where; `b0` the first byte, `ff` the flags/fragment word -/
structure View4Reads (p : Bytes) (v : View4) (b0 ff : Nat) : Prop where
  first : u8 p 0 = some b0
  version : b0 / 16 = 4
  flags : u16 p 6 = some ff
  frag : v.outerFrag = ff % 16384
  proto : u8 p 9 = some v.outerProto
  src : raw p 12 4 = some v.outerSrc
  dst : raw p 16 4 = some v.outerDst
  l4 : v.l4 = (b0 % 16) * 4

theorem view4_spec {p : Bytes} {v : View4} (h : view4 p = some v) : ∃ b0 ff, View4Reads p v b0 ff := by
  unfold view4 at h
  split at h
  · rename_i b0 ff pr s d h0 h1 h2 h3 h4
    rcases ite_cases h with ⟨hv, h⟩ | ⟨_, h⟩
    · cases h
      exact ⟨b0, ff, h0, hv, h1, rfl, h2, h3, h4, rfl⟩
    · cases h
  · cases h

/-- what `view6` read when the fixed header's next-header field is not hop-by-hop -/
theorem view6_direct {p : Bytes} {v : View6} (h : view6 p = some v) (hnz : u8 p 6 ≠ some 0) :
    u8 p 6 = some v.upper := by
  unfold view6 at h
  split at h
  · rename_i b0 nh s d h0 h1 h2 h3
    obtain ⟨_, h⟩ := of_ite_none h
    rcases ite_cases h with ⟨hz, h⟩ | ⟨_, h⟩
    · subst hz; exact absurd h1 hnz
    · cases h; exact h1
  · cases h

/-! ## The predicates

Per predicate a structure: first the reads (`view`, `quote`, `ports`, …; the values read are
parameters), then one field per conjunct, in the order of the `Spec` definition.  A field name says
the same thing in all ten: `src` the responder, `proto` the outer protocol (IPv6: the upper-layer
protocol), `type` / `code` of the ICMP message, `qsrc` / `qdst` / `qproto` of the quoted header,
`dport` / `strict` the quoted ports against the flow (direct forms: `sport` / `dport` the reply's own
ports), `sent` the recorded probe, `dest` the destination mark.  The exception is `etype`, which
bounds the byte that `rType` reads: in the two ICMP `TE` forms the type of the quoted echo, in the
two `Echo` forms (which have no `type`) the type of the ICMP message itself. -/

structure GenuineIcmp4TE (c : IcmpCfg) (sent : List Sent) (t : Nat) (a p : Bytes)
    (v : View4) (q : Quote4) (ety eid eseq : Nat) : Prop where
  view : view4 p = some v
  quote : quote4 p v.l4 = some q
  rType : u8 p q.qL4 = some ety
  rId : u16 p (q.qL4 + 4) = some eid
  rSeq : u16 p (q.qL4 + 6) = some eseq
  src : v.outerSrc = a
  proto : v.outerProto = 1
  frag : v.outerFrag = 0
  type : q.icmpType = 11
  qsrc : q.qSrc = c.localA
  qdst : q.qDst = c.target
  qproto : q.qProto = 1
  etype : ety = 8 ∨ ety = 0
  id : eid = c.echoId
  seq : eseq = t
  sent : sentTTL sent t = true
  min : c.min ≤ t
  max : t ≤ c.max

theorem genuineIcmp4TE_iff {c : IcmpCfg} {sent : List Sent} {t : Nat} {a p : Bytes} :
    genuineIcmp4TE c sent t a p = true ↔ ∃ v q ety eid eseq, GenuineIcmp4TE c sent t a p v q ety eid eseq := by
  unfold genuineIcmp4TE
  constructor
  · intro h
    split at h
    · cases h
    rename_i v hv
    split at h
    · cases h
    rename_i q hq
    split at h
    · rename_i ety eid eseq h1 h2 h3
      simp only [Bool.and_eq_true, Bool.or_eq_true, decide_eq_true_eq, and_assoc] at h
      obtain ⟨c1, c2, c3, c4, c5, c6, c7, c8, c9, c10, c11, c12, c13⟩ := h
      exact ⟨v, q, ety, eid, eseq, hv, hq, h1, h2, h3, c1, c2, c3, c4, c5, c6, c7, c8, c9, c10, c11, c12, c13⟩
    · cases h
  · rintro ⟨v, q, ety, eid, eseq, g⟩
    simp only [g.view, g.quote, g.rType, g.rId, g.rSeq, Bool.and_eq_true, Bool.or_eq_true, decide_eq_true_eq, and_assoc]
    exact ⟨g.src, g.proto, g.frag, g.type, g.qsrc, g.qdst, g.qproto, g.etype, g.id, g.seq, g.sent, g.min, g.max⟩

structure GenuineIcmp4Echo (c : IcmpCfg) (sent : List Sent) (t : Nat) (a p : Bytes)
    (v : View4) (ty eid eseq : Nat) : Prop where
  view : view4 p = some v
  rType : u8 p v.l4 = some ty
  rId : u16 p (v.l4 + 4) = some eid
  rSeq : u16 p (v.l4 + 6) = some eseq
  src : v.outerSrc = a
  target : a = c.target
  proto : v.outerProto = 1
  frag : v.outerFrag = 0
  etype : ty = 0
  id : eid = c.echoId
  seq : eseq = t
  sent : sentTTL sent t = true
  min : c.min ≤ t
  max : t ≤ c.max

theorem genuineIcmp4Echo_iff {c : IcmpCfg} {sent : List Sent} {t : Nat} {a p : Bytes} :
    genuineIcmp4Echo c sent t a p = true ↔ ∃ v ty eid eseq, GenuineIcmp4Echo c sent t a p v ty eid eseq := by
  unfold genuineIcmp4Echo
  constructor
  · intro h
    split at h
    · cases h
    rename_i v hv
    split at h
    · rename_i ty eid eseq h1 h2 h3
      simp only [Bool.and_eq_true, decide_eq_true_eq, and_assoc] at h
      obtain ⟨c1, c2, c3, c4, c5, c6, c7, c8, c9, c10⟩ := h
      exact ⟨v, ty, eid, eseq, hv, h1, h2, h3, c1, c2, c3, c4, c5, c6, c7, c8, c9, c10⟩
    · cases h
  · rintro ⟨v, ty, eid, eseq, g⟩
    simp only [g.view, g.rType, g.rId, g.rSeq, Bool.and_eq_true, decide_eq_true_eq, and_assoc]
    exact ⟨g.src, g.target, g.proto, g.frag, g.etype, g.id, g.seq, g.sent, g.min, g.max⟩

structure GenuineUdp4 (c : UdpCfg) (sent : List Sent) (t : Nat) (a : Bytes) (d : Bool) (p : Bytes)
    (v : View4) (q : Quote4) (sp dp : Nat) : Prop where
  view : view4 p = some v
  quote : quote4 p v.l4 = some q
  ports : portsAt p q.qL4 = some (sp, dp)
  src : v.outerSrc = a
  proto : v.outerProto = 1
  frag : v.outerFrag = 0
  type : q.icmpType = 11 ∧ q.icmpCode = 0 ∨ q.icmpType = 3
  qproto : q.qProto = 17
  qdst : q.qDst = c.target
  dport : dp = c.tport
  strict : c.loosen = true ∨ q.qSrc = c.localA ∧ sp = c.lport
  sent : ∃ x ∈ sent, x.ttl = t ∧ x.id = q.qId
  dest : d = decide (a = c.target)

theorem genuineUdp4_iff {c : UdpCfg} {sent : List Sent} {t : Nat} {a : Bytes} {d : Bool} {p : Bytes} :
    genuineUdp4 c sent t a d p = true ↔ ∃ v q sp dp, GenuineUdp4 c sent t a d p v q sp dp := by
  unfold genuineUdp4
  constructor
  · intro h
    split at h
    · cases h
    rename_i v hv
    split at h
    · cases h
    rename_i q hq
    split at h
    · cases h
    rename_i sp dp hp
    simp only [Bool.and_eq_true, Bool.or_eq_true, decide_eq_true_eq, List.any_eq_true, beq_iff_eq, and_assoc] at h
    obtain ⟨c1, c2, c3, c4, c5, c6, c7, c8, c9, c10⟩ := h
    exact ⟨v, q, sp, dp, hv, hq, hp, c1, c2, c3, c4, c5, c6, c7, c8, c9, c10⟩
  · rintro ⟨v, q, sp, dp, g⟩
    simp only [g.view, g.quote, g.ports, Bool.and_eq_true, Bool.or_eq_true, decide_eq_true_eq, List.any_eq_true,
      beq_iff_eq, and_assoc]
    exact ⟨g.src, g.proto, g.frag, g.type, g.qproto, g.qdst, g.dport, g.strict, g.sent, g.dest⟩

structure GenuineTcpQuoted (c : TcpCfg) (sent : List Sent) (t : Nat) (a p : Bytes)
    (v : View4) (q : Quote4) (sp dp sq : Nat) : Prop where
  view : view4 p = some v
  quote : quote4 p v.l4 = some q
  ports : portsAt p q.qL4 = some (sp, dp)
  qseq : u32 p (q.qL4 + 4) = some sq
  src : v.outerSrc = a
  proto : v.outerProto = 1
  frag : v.outerFrag = 0
  type : q.icmpType = 11
  code : q.icmpCode = 0
  qproto : q.qProto = 6
  qdst : q.qDst = c.target
  dport : dp = c.tport
  strict : c.loosen = true ∨ q.qSrc = c.localA ∧ sp = c.lport
  sent : ∃ x ∈ sent, x.ttl = t ∧ x.id = q.qId ∧ x.seq = sq

theorem genuineTcpQuoted_iff {c : TcpCfg} {sent : List Sent} {t : Nat} {a p : Bytes} :
    genuineTcpQuoted c sent t a p = true ↔ ∃ v q sp dp sq, GenuineTcpQuoted c sent t a p v q sp dp sq := by
  unfold genuineTcpQuoted
  constructor
  · intro h
    split at h
    · cases h
    rename_i v hv
    split at h
    · cases h
    rename_i q hq
    split at h
    · rename_i sp dp sq hp hs
      simp only [Bool.and_eq_true, Bool.or_eq_true, decide_eq_true_eq, List.any_eq_true, and_assoc] at h
      obtain ⟨c1, c2, c3, c4, c5, c6, c7, c8, c9, c10⟩ := h
      exact ⟨v, q, sp, dp, sq, hv, hq, hp, hs, c1, c2, c3, c4, c5, c6, c7, c8, c9, c10⟩
    · cases h
  · rintro ⟨v, q, sp, dp, sq, g⟩
    simp only [g.view, g.quote, g.ports, g.qseq, Bool.and_eq_true, Bool.or_eq_true, decide_eq_true_eq,
      List.any_eq_true, and_assoc]
    exact ⟨g.src, g.proto, g.frag, g.type, g.code, g.qproto, g.qdst, g.dport, g.strict, g.sent⟩

structure GenuineTcpDirect (c : TcpCfg) (sent : List Sent) (t : Nat) (a p : Bytes)
    (v : View4) (sp dp ack fl : Nat) (last : Sent) : Prop where
  view : view4 p = some v
  ports : portsAt p v.l4 = some (sp, dp)
  rAck : u32 p (v.l4 + 8) = some ack
  rFlags : u8 p (v.l4 + 13) = some fl
  getLast : sent.getLast? = some last
  src : v.outerSrc = a
  target : a = c.target
  dst : v.outerDst = c.localA
  proto : v.outerProto = 6
  frag : v.outerFrag = 0
  sport : sp = c.tport
  dport : dp = c.lport
  flags : fl / 2 % 2 = 1 ∧ fl / 16 % 2 = 1 ∨ fl / 4 % 2 = 1
  ackSeq : ¬fl / 16 % 2 = 1 ∨ last.seq = (ack + 4294967295) % 4294967296
  ttl : t = last.ttl

theorem genuineTcpDirect_iff {c : TcpCfg} {sent : List Sent} {t : Nat} {a p : Bytes} :
    genuineTcpDirect c sent t a p = true ↔ ∃ v sp dp ack fl last, GenuineTcpDirect c sent t a p v sp dp ack fl last := by
  unfold genuineTcpDirect
  constructor
  · intro h
    split at h
    · cases h
    rename_i v hv
    split at h
    · rename_i sp dp ack fl last hp hack hfl hlast
      simp only [Bool.and_eq_true, Bool.or_eq_true, decide_eq_true_eq, Bool.not_eq_true', decide_eq_false_iff_not,
        and_assoc] at h
      obtain ⟨c1, c2, c3, c4, c5, c6, c7, c8, c9, c10⟩ := h
      exact ⟨v, sp, dp, ack, fl, last, hv, hp, hack, hfl, hlast, c1, c2, c3, c4, c5, c6, c7, c8, c9, c10⟩
    · cases h
  · rintro ⟨v, sp, dp, ack, fl, last, g⟩
    simp only [g.view, g.ports, g.rAck, g.rFlags, g.getLast, Bool.and_eq_true, Bool.or_eq_true, decide_eq_true_eq,
      Bool.not_eq_true', decide_eq_false_iff_not, and_assoc]
    exact ⟨g.src, g.target, g.dst, g.proto, g.frag, g.sport, g.dport, g.flags, g.ackSeq, g.ttl⟩

structure GenuineSackQuoted (c : SackCfg) (sent : List Sent) (t : Nat) (a : Bytes) (d : Bool) (p : Bytes)
    (v : View4) (q : Quote4) (sp dp sq : Nat) : Prop where
  view : view4 p = some v
  quote : quote4 p v.l4 = some q
  ports : portsAt p q.qL4 = some (sp, dp)
  qseq : u32 p (q.qL4 + 4) = some sq
  src : v.outerSrc = a
  proto : v.outerProto = 1
  frag : v.outerFrag = 0
  type : q.icmpType = 11
  code : q.icmpCode = 0
  qproto : q.qProto = 6
  qdst : q.qDst = c.target
  dport : dp = c.tport
  strict : c.loosen = true ∨ q.qSrc = c.localA ∧ sp = c.lport
  rel : (sq + 4294967296 - c.isn % 4294967296) % 4294967296 = t
  sent : sentTTL sent t = true
  min : c.min ≤ t
  max : t ≤ c.max
  dest : d = decide (a = c.target)

theorem genuineSackQuoted_iff {c : SackCfg} {sent : List Sent} {t : Nat} {a : Bytes} {d : Bool} {p : Bytes} :
    genuineSackQuoted c sent t a d p = true ↔ ∃ v q sp dp sq, GenuineSackQuoted c sent t a d p v q sp dp sq := by
  unfold genuineSackQuoted
  constructor
  · intro h
    split at h
    · cases h
    rename_i v hv
    split at h
    · cases h
    rename_i q hq
    split at h
    · rename_i sp dp sq hp hs
      simp only [Bool.and_eq_true, Bool.or_eq_true, decide_eq_true_eq, beq_iff_eq, and_assoc] at h
      obtain ⟨c1, c2, c3, c4, c5, c6, c7, c8, c9, c10, c11, c12, c13, c14⟩ := h
      exact ⟨v, q, sp, dp, sq, hv, hq, hp, hs, c1, c2, c3, c4, c5, c6, c7, c8, c9, c10, c11, c12, c13, c14⟩
    · cases h
  · rintro ⟨v, q, sp, dp, sq, g⟩
    simp only [g.view, g.quote, g.ports, g.qseq, Bool.and_eq_true, Bool.or_eq_true, decide_eq_true_eq, beq_iff_eq,
      and_assoc]
    exact ⟨g.src, g.proto, g.frag, g.type, g.code, g.qproto, g.qdst, g.dport, g.strict, g.rel, g.sent, g.min, g.max,
      g.dest⟩

structure GenuineSackDirect (c : SackCfg) (sent : List Sent) (t : Nat) (a p : Bytes)
    (v : View4) (sp dp b12 fl : Nat) (ob : Bytes) (opts : List (Nat × Bytes)) : Prop where
  view : view4 p = some v
  ports : portsAt p v.l4 = some (sp, dp)
  rOff : u8 p (v.l4 + 12) = some b12
  rFlags : u8 p (v.l4 + 13) = some fl
  rOpts : raw p (v.l4 + 20) (b12 / 16 * 4 - 20) = some ob
  topts : Wire.tcpOpts (b12 / 16 * 4 - 20) ob = some opts
  src : v.outerSrc = a
  target : a = c.target
  dst : v.outerDst = c.localA
  proto : v.outerProto = 6
  frag : v.outerFrag = 0
  sport : sp = c.tport
  dport : dp = c.lport
  fin : fl % 2 = 0
  syn : fl / 2 % 2 = 0
  rst : fl / 4 % 2 = 0
  edge : minSack c.isn opts = some t
  sent : sentTTL sent t = true
  min : c.min ≤ t
  max : t ≤ c.max

theorem genuineSackDirect_iff {c : SackCfg} {sent : List Sent} {t : Nat} {a p : Bytes} :
    genuineSackDirect c sent t a p = true ↔
      ∃ v sp dp b12 fl ob opts, GenuineSackDirect c sent t a p v sp dp b12 fl ob opts := by
  unfold genuineSackDirect
  constructor
  · intro h
    split at h
    · cases h
    rename_i v hv
    split at h
    · rename_i sp dp b12 fl hp h12 hfl
      simp only at h
      split at h
      · cases h
      rename_i ob hob
      split at h
      · cases h
      rename_i opts hopts
      simp only [Bool.and_eq_true, decide_eq_true_eq, and_assoc] at h
      obtain ⟨c1, c2, c3, c4, c5, c6, c7, c8, c9, c10, c11, c12, c13, c14⟩ := h
      exact ⟨v, sp, dp, b12, fl, ob, opts, hv, hp, h12, hfl, hob, hopts, c1, c2, c3, c4, c5, c6, c7, c8, c9, c10,
        c11, c12, c13, c14⟩
    · cases h
  · rintro ⟨v, sp, dp, b12, fl, ob, opts, g⟩
    simp only [g.view, g.ports, g.rOff, g.rFlags, g.rOpts, g.topts, Bool.and_eq_true, decide_eq_true_eq, and_assoc]
    exact ⟨g.src, g.target, g.dst, g.proto, g.frag, g.sport, g.dport, g.fin, g.syn, g.rst, g.edge, g.sent, g.min,
      g.max⟩

theorem genuineSack_iff {c : SackCfg} {sent : List Sent} {t : Nat} {a : Bytes} {d : Bool} {p : Bytes} :
    genuineSack c sent t a d p = true ↔
      genuineSackQuoted c sent t a d p = true ∨ d = true ∧ genuineSackDirect c sent t a p = true := by
  simp only [genuineSack, Bool.or_eq_true, Bool.and_eq_true]

structure GenuineIcmp6Echo (c : IcmpCfg) (sent : List Sent) (t : Nat) (a p : Bytes)
    (v : View6) (ty eid eseq : Nat) : Prop where
  view : view6 p = some v
  rType : u8 p v.l4 = some ty
  rId : u16 p (v.l4 + 4) = some eid
  rSeq : u16 p (v.l4 + 6) = some eseq
  src : v.outerSrc = a
  target : a = c.target
  proto : v.upper = 58
  etype : ty = 129
  id : eid = c.echoId
  seq : eseq = t
  sent : sentTTL sent t = true
  min : c.min ≤ t
  max : t ≤ c.max

theorem genuineIcmp6Echo_iff {c : IcmpCfg} {sent : List Sent} {t : Nat} {a p : Bytes} :
    genuineIcmp6 c sent t a true p = true ↔ ∃ v ty eid eseq, GenuineIcmp6Echo c sent t a p v ty eid eseq := by
  unfold genuineIcmp6
  constructor
  · intro h
    split at h
    · cases h
    rename_i v hv
    rw [if_pos rfl] at h
    split at h
    · rename_i ty eid eseq h1 h2 h3
      simp only [Bool.and_eq_true, decide_eq_true_eq, and_assoc] at h
      obtain ⟨c1, c2, c3, c4, c5, c6, c7, c8, c9⟩ := h
      exact ⟨v, ty, eid, eseq, hv, h1, h2, h3, c1, c2, c3, c4, c5, c6, c7, c8, c9⟩
    · cases h
  · rintro ⟨v, ty, eid, eseq, g⟩
    simp only [g.view, g.rType, g.rId, g.rSeq, if_true, Bool.and_eq_true, decide_eq_true_eq, and_assoc]
    exact ⟨g.src, g.target, g.proto, g.etype, g.id, g.seq, g.sent, g.min, g.max⟩

structure GenuineIcmp6TE (c : IcmpCfg) (sent : List Sent) (t : Nat) (a p : Bytes)
    (v : View6) (q : Quote6) (ety eid eseq : Nat) : Prop where
  view : view6 p = some v
  quote : quote6 p v.l4 = some q
  rType : u8 p q.qL4 = some ety
  rId : u16 p (q.qL4 + 4) = some eid
  rSeq : u16 p (q.qL4 + 6) = some eseq
  src : v.outerSrc = a
  proto : v.upper = 58
  type : q.icmpType = 3
  qsrc : q.qSrc = c.localA
  qdst : q.qDst = c.target
  qproto : q.qNh = 58
  etype : ety = 128 ∨ ety = 129
  id : eid = c.echoId
  seq : eseq = t
  sent : sentTTL sent t = true
  min : c.min ≤ t
  max : t ≤ c.max

theorem genuineIcmp6TE_iff {c : IcmpCfg} {sent : List Sent} {t : Nat} {a p : Bytes} :
    genuineIcmp6 c sent t a false p = true ↔ ∃ v q ety eid eseq, GenuineIcmp6TE c sent t a p v q ety eid eseq := by
  unfold genuineIcmp6
  constructor
  · intro h
    split at h
    · cases h
    rename_i v hv
    rw [if_neg Bool.false_ne_true] at h
    split at h
    · cases h
    rename_i q hq
    split at h
    · rename_i ety eid eseq h1 h2 h3
      simp only [Bool.and_eq_true, Bool.or_eq_true, decide_eq_true_eq, and_assoc] at h
      obtain ⟨c1, c2, c3, c4, c5, c6, c7, c8, c9, c10, c11, c12⟩ := h
      exact ⟨v, q, ety, eid, eseq, hv, hq, h1, h2, h3, c1, c2, c3, c4, c5, c6, c7, c8, c9, c10, c11, c12⟩
    · cases h
  · rintro ⟨v, q, ety, eid, eseq, g⟩
    simp only [g.view, g.quote, g.rType, g.rId, g.rSeq, Bool.false_eq_true, if_false, Bool.and_eq_true,
      Bool.or_eq_true, decide_eq_true_eq, and_assoc]
    exact ⟨g.src, g.proto, g.type, g.qsrc, g.qdst, g.qproto, g.etype, g.id, g.seq, g.sent, g.min, g.max⟩

structure GenuineUdp6 (c : UdpCfg) (sent : List Sent) (t : Nat) (a : Bytes) (d : Bool) (p : Bytes)
    (v : View6) (q : Quote6) (sp dp : Nat) : Prop where
  view : view6 p = some v
  quote : quote6 p v.l4 = some q
  ports : portsAt p q.qL4 = some (sp, dp)
  src : v.outerSrc = a
  proto : v.upper = 58
  type : q.icmpType = 3 ∧ q.icmpCode = 0 ∨ q.icmpType = 1
  qdst : q.qDst = c.target
  dport : dp = c.tport
  strict : c.loosen = true ∨ q.qSrc = c.localA ∧ sp = c.lport
  qproto : q.qNh = 17
  sent : ∃ x ∈ sent, x.ttl = t ∧ x.id = q.qPlen
  dest : d = decide (a = c.target)

theorem genuineUdp6_iff {c : UdpCfg} {sent : List Sent} {t : Nat} {a : Bytes} {d : Bool} {p : Bytes} :
    genuineUdp6 c sent t a d p = true ↔ ∃ v q sp dp, GenuineUdp6 c sent t a d p v q sp dp := by
  unfold genuineUdp6
  constructor
  · intro h
    split at h
    · cases h
    rename_i v hv
    split at h
    · cases h
    rename_i q hq
    split at h
    · cases h
    rename_i sp dp hp
    simp only [Bool.and_eq_true, Bool.or_eq_true, decide_eq_true_eq, List.any_eq_true, beq_iff_eq, and_assoc] at h
    obtain ⟨c1, c2, c3, c4, c5, c6, c7, c8, c9⟩ := h
    exact ⟨v, q, sp, dp, hv, hq, hp, c1, c2, c3, c4, c5, c6, c7, c8, c9⟩
  · rintro ⟨v, q, sp, dp, g⟩
    simp only [g.view, g.quote, g.ports, Bool.and_eq_true, Bool.or_eq_true, decide_eq_true_eq, List.any_eq_true,
      beq_iff_eq, and_assoc]
    exact ⟨g.src, g.proto, g.type, g.qdst, g.dport, g.strict, g.qproto, g.sent, g.dest⟩

end TRV.Proofs
