import TRV.Spec.Alloc
/-! The identifier allocators (C11): 16/32-bit wrap-around arithmetic via `toNat` + `omega`, sequences
    by induction, concurrent schedules by an invariant. -/
namespace TRV.Proofs
open TRV TRV.Alloc TRV.Spec TRV.Drv

theorem packetID_base (c : BitVec 32) (n : BitVec 8) : (packetID c n).1 = c.truncate 16 := by
  simp only [packetID, BitVec.add_sub_cancel]

theorem packetID_ctr (c : BitVec 32) (n : BitVec 8) : (packetID c n).2 = c + n.zeroExtend 32 := rfl

theorem packetID_ctr_toNat (c : BitVec 32) (n : BitVec 8) :
    (packetID c n).2.toNat = (c.toNat + n.toNat) % 4294967296 := by
  simp [packetID, BitVec.toNat_add]

theorem packetID_base_toNat (c : BitVec 32) (n : BitVec 8) : (packetID c n).1.toNat = c.toNat % 65536 := by
  rw [packetID_base]; simp

theorem idOf_toNat (b : BitVec 16) (t : Nat) : (idOf b t).toNat = (b.toNat + t) % 65536 := by
  simp [idOf, BitVec.toNat_add]

theorem mem_used {b : BitVec 16} {n : Nat} {x : BitVec 16} :
    x ∈ used b n ↔ ∃ t, 1 ≤ t ∧ t ≤ n ∧ x = idOf b t := by
  simp only [used, List.mem_map, List.mem_range'_1]
  constructor
  · rintro ⟨t, ⟨h1, h2⟩, rfl⟩; exact ⟨t, h1, by omega, rfl⟩
  · rintro ⟨t, h1, h2, rfl⟩; exact ⟨t, ⟨h1, by omega⟩, rfl⟩

theorem ids_differ (c a b : Nat) (ha : a < b) (hb : b < a + 65536) : (c + a) % 65536 ≠ (c + b) % 65536 := by
  omega

/-- the 32-bit wrap of the counter is invisible in the low 16 bits -/
theorem wrap32_mod16 (a k : Nat) : (a % 4294967296 + k) % 65536 = (a + k) % 65536 := by
  rw [Nat.add_mod, Nat.mod_mod_of_dvd a (by decide : 65536 ∣ 4294967296), ← Nat.add_mod]

theorem allocSeq_fold (reqs : List (BitVec 8)) : ∀ (acc : List Block) (c : BitVec 32),
    reqs.foldl allocStep (acc, c) = (acc ++ blocks c reqs, reqs.foldl (fun c n => (packetID c n).2) c) := by
  induction reqs with
  | nil => intro acc c; simp [blocks]
  | cons n rest ih =>
    intro acc c
    simp only [List.foldl_cons, allocStep, blocks]
    rw [ih]; simp

theorem allocSeq_blocks (c : BitVec 32) (reqs : List (BitVec 8)) : (allocSeq c reqs).1 = blocks c reqs := by
  simp [allocSeq, allocSeq_fold]

theorem allocSeq_ctr (c : BitVec 32) (reqs : List (BitVec 8)) :
    (allocSeq c reqs).2 = reqs.foldl (fun c n => (packetID c n).2) c := by
  simp [allocSeq, allocSeq_fold]

theorem total_cons (n : BitVec 8) (rest : List (BitVec 8)) : total (n :: rest) = n.toNat + total rest := by
  simp [total]

/-- every block of a sequence starts `S` identifiers after the start counter, where `S` is the
    number of identifiers handed out before it -/
theorem mem_blocks : ∀ (reqs : List (BitVec 8)) (c : BitVec 32) (blk : Block), blk ∈ blocks c reqs →
    ∃ S, blk.1.toNat = (c.toNat + S) % 65536 ∧ S + blk.2 ≤ total reqs := by
  intro reqs
  induction reqs with
  | nil => intro c blk h; simp [blocks] at h
  | cons n rest ih =>
    intro c blk h
    simp only [blocks, List.mem_cons] at h
    rcases h with rfl | h
    · exact ⟨0, by simp [packetID_base_toNat], by simp [total_cons]⟩
    · obtain ⟨S, h1, h2⟩ := ih _ _ h
      refine ⟨n.toNat + S, ?_, by rw [total_cons]; omega⟩
      rw [h1, packetID_ctr_toNat, wrap32_mod16, Nat.add_assoc]

theorem blocks_pairwise : ∀ (reqs : List (BitVec 8)) (c : BitVec 32), total reqs ≤ 65536 →
    (blocks c reqs).Pairwise Disjoint := by
  intro reqs
  induction reqs with
  | nil => intro c _; simp [blocks]
  | cons n rest ih =>
    intro c htot
    rw [total_cons] at htot
    simp only [blocks, List.pairwise_cons]
    refine ⟨?_, ih _ (by omega)⟩
    intro blk hblk x hx hx'
    obtain ⟨S, h1, h2⟩ := mem_blocks _ _ _ hblk
    obtain ⟨t, ht1, ht2, rfl⟩ := mem_used.mp hx
    obtain ⟨t', ht1', ht2', he⟩ := mem_used.mp hx'
    -- both are `counter + offset` mod 2^16, with offsets `t < n + S + t'` less than 2^16 apart
    have hlt : t < n.toNat + (S + t') := by clear h1; omega
    have hgt : n.toNat + (S + t') < t + 65536 := by clear h1; omega
    have := congrArg BitVec.toNat he
    rw [idOf_toNat, idOf_toNat, h1, packetID_base_toNat, packetID_ctr_toNat, wrap32_mod16, Nat.mod_add_mod,
      Nat.mod_add_mod, Nat.add_assoc, Nat.add_assoc] at this
    exact ids_differ _ _ _ hlt hgt this

theorem echoSeq_fold (m : Nat) : ∀ (acc : List (BitVec 16)) (c : BitVec 32),
    (List.replicate m ()).foldl echoStep (acc, c) = (acc ++ echoIds c m, c + BitVec.ofNat 32 m) := by
  induction m with
  | zero => intro acc c; simp [echoIds]
  | succ m ih =>
    intro acc c
    simp only [List.replicate_succ, List.foldl_cons, echoStep, echoIds]
    rw [ih, List.append_assoc, BitVec.ofNat_add, BitVec.add_comm (BitVec.ofNat 32 m), ← BitVec.add_assoc]
    rfl

theorem echoSeq_ids (c : BitVec 32) (m : Nat) : (echoSeq c m).1 = echoIds c m := by
  simp [echoSeq, echoSeq_fold]

theorem echoSeq_ctr (c : BitVec 32) (m : Nat) : (echoSeq c m).2 = c + BitVec.ofNat 32 m := by
  simp [echoSeq, echoSeq_fold]

theorem echoID_toNat (c : BitVec 32) : (echoID c).1.toNat = (c.toNat + 1) % 65536 := by
  simp [echoID, BitVec.toNat_add, Nat.mod_mod_of_dvd _ (by decide : 65536 ∣ 4294967296)]

theorem echoID_ctr_toNat (c : BitVec 32) : (echoID c).2.toNat = (c.toNat + 1) % 4294967296 := by
  simp [echoID, BitVec.toNat_add]

theorem mem_echoIds : ∀ (m : Nat) (c : BitVec 32) (x : BitVec 16), x ∈ echoIds c m →
    ∃ k, 1 ≤ k ∧ k ≤ m ∧ x.toNat = (c.toNat + k) % 65536 := by
  intro m
  induction m with
  | zero => intro c x h; simp [echoIds] at h
  | succ m ih =>
    intro c x h
    simp only [echoIds, List.mem_cons] at h
    rcases h with rfl | h
    · exact ⟨1, Nat.le_refl 1, Nat.succ_le_succ (Nat.zero_le m), echoID_toNat c⟩
    · obtain ⟨k, h1, h2, h3⟩ := ih _ _ h
      refine ⟨k + 1, Nat.le_add_left 1 k, Nat.succ_le_succ h2, ?_⟩
      rw [h3, echoID_ctr_toNat, wrap32_mod16, Nat.add_assoc, Nat.add_comm 1 k]

theorem echoIds_pairwise : ∀ (m : Nat) (c : BitVec 32), m ≤ 65536 → (echoIds c m).Pairwise (· ≠ ·) := by
  intro m
  induction m with
  | zero => intro c _; simp [echoIds]
  | succ m ih =>
    intro c hm
    simp only [echoIds, List.pairwise_cons]
    refine ⟨?_, ih _ (by omega)⟩
    intro y hy heq
    obtain ⟨k, h1, h2, h3⟩ := mem_echoIds _ _ _ hy
    have hk : 1 < 1 + k ∧ 1 + k < 1 + 65536 := by clear h3; omega
    have := congrArg BitVec.toNat heq
    rw [h3, echoID_toNat, echoID_ctr_toNat, wrap32_mod16, Nat.add_assoc] at this
    exact ids_differ _ 1 (1 + k) hk.1 hk.2 this

theorem seqRun_snoc (req : Nat → BitVec 8) (c : BitVec 32) (order : List Nat) (t : Nat) :
    seqRun req c (order ++ [t]) = seqStep req (seqRun req c order) t := by
  simp [seqRun, List.foldl_append]

theorem addOrder_snoc_add (s : List Step) (t : Nat) : addOrder (s ++ [.add t]) = addOrder s ++ [t] := by
  induction s with
  | nil => rfl
  | cons e rest ih => cases e <;> simp [addOrder, ih]

theorem addOrder_snoc_ret (s : List Step) (t : Nat) : addOrder (s ++ [.ret t]) = addOrder s := by
  induction s with
  | nil => rfl
  | cons e rest ih => cases e <;> simp [addOrder, ih]

/-- what a goroutine returns after `Add` handed it the new counter value is the block the
    sequential allocator hands out from the old counter value -/
theorem retOf_add (req : Nat → BitVec 8) (c : BitVec 32) (t : Nat) :
    retOf req (t, c + (req t).zeroExtend 32) = (t, ((packetID c (req t)).1, (req t).toNat)) := by
  simp [retOf, packetID]

/-- invariant: counter = sequential counter after the `Add`s so far (in their order); returned +
    pending results = the sequential results, as multisets -/
def ConcInv (req : Nat → BitVec 8) (c : BitVec 32) (sched : List Step) (s : ConcSt) : Prop :=
  s.ctr = (seqRun req c (addOrder sched)).2 ∧
  (s.done ++ s.pend.map (retOf req)).Perm (seqRun req c (addOrder sched)).1

theorem concRun_snoc (req : Nat → BitVec 8) (c : BitVec 32) (sched : List Step) (e : Step) :
    concRun req c (sched ++ [e]) = concStep req (concRun req c sched) e := by
  simp [concRun, List.foldl_append]

theorem concInv_step {req : Nat → BitVec 8} {c : BitVec 32} {sched : List Step} {s : ConcSt}
    (h : ConcInv req c sched s) (e : Step) : ConcInv req c (sched ++ [e]) (concStep req s e) := by
  obtain ⟨hc, hp⟩ := h
  cases e with
  | add t =>
    simp only [ConcInv, concStep, addOrder_snoc_add, seqRun_snoc, seqStep, List.map_cons]
    refine ⟨by rw [← hc]; rfl, ?_⟩
    rw [← hc, retOf_add]
    -- done ++ (new :: pend') ~ seq ++ [new]
    refine (List.perm_middle).trans ?_
    refine List.Perm.trans (List.Perm.cons _ hp) ?_
    exact (List.perm_append_singleton _ _).symm
  | ret t =>
    simp only [ConcInv, concStep, addOrder_snoc_ret]
    cases hf : s.pend.find? (fun e => decide (e.1 = t)) with
    | none => exact ⟨hc, hp⟩
    | some e =>
      refine ⟨hc, List.Perm.trans ?_ hp⟩
      have hmem : e ∈ s.pend := List.mem_of_find?_eq_some hf
      have h1 : (s.pend.map (retOf req)).Perm (retOf req e :: (s.pend.erase e).map (retOf req)) :=
        (List.perm_cons_erase hmem).map (retOf req)
      -- (done ++ [r]) ++ rest ~ done ++ (r :: rest) ~ done ++ pend.map
      rw [List.append_assoc]
      exact List.Perm.append_left _ h1.symm

theorem concInv_fold {req : Nat → BitVec 8} {c : BitVec 32} (rest : List Step) :
    ∀ (pre : List Step) (s : ConcSt), ConcInv req c pre s →
      ConcInv req c (pre ++ rest) (rest.foldl (concStep req) s) := by
  induction rest with
  | nil => intro pre s h; simpa using h
  | cons e rest ih =>
    intro pre s h
    have := ih (pre ++ [e]) _ (concInv_step h e)
    simpa using this

theorem concInv_run (req : Nat → BitVec 8) (c : BitVec 32) (sched : List Step) :
    ConcInv req c sched (concRun req c sched) := by
  have := concInv_fold (req := req) (c := c) sched [] { ctr := c, pend := [], done := [] }
    (by simp [ConcInv, addOrder, seqRun])
  simpa [concRun] using this

theorem seqRun_blocks (req : Nat → BitVec 8) (c : BitVec 32) (order : List Nat) :
    (seqRun req c order).1.map (·.2) = blocks c (order.map req) := by
  rw [← allocSeq_blocks, allocSeq, List.foldl_map]
  exact congrArg Prod.fst (List.foldl_hom (fun st => (st.1.map (·.2), st.2)) (g₁ := seqStep req)
    (g₂ := fun st t => allocStep st (req t)) (l := order) (init := ([], c)) (by simp [seqStep, allocStep])).symm

theorem mem_range'_incl {lo hi t : Nat} : t ∈ List.range' lo (hi + 1 - lo) ↔ lo ≤ t ∧ t ≤ hi := by
  rw [List.mem_range'_1]; omega

theorem seqWindowsDisjointB_iff (a b : SackCfg) : seqWindowsDisjointB a b = true ↔ SeqWindowsDisjoint a b := by
  simp only [seqWindowsDisjointB, SeqWindowsDisjoint, List.all_eq_true, mem_range'_incl, decide_eq_true_eq]
  exact ⟨fun h t t' h1 h2 h3 h4 => h t ⟨h1, h2⟩ t' ⟨h3, h4⟩, fun h t ht t' ht' => h t t' ht.1 ht.2 ht'.1 ht'.2⟩

end TRV.Proofs
