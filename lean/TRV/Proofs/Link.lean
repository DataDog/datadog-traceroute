import TRV.Model.Link
import TRV.Proofs.Bytes
/-! Lemmas for C09 / C12 about `Model/Link`: `strip` yields a packet exactly for a 14-byte header with an
IP EtherType in front of it (`strip_packet_iff`); after any sequence of filter requests and arriving
frames the attached program is the last one requested and every queued frame passes it
(`attached_is_last`, `queue_accepted`); what a read hands up is the stripped, non-empty payload of a
queued frame (`readNext_mem`, `handUp_eq_some`). -/
namespace TRV.Proofs.Link
open TRV TRV.Link

theorem strip_append {eth : Bytes} (hl : eth.length = 14) (p : Bytes) :
    strip (eth ++ p) = match u16 eth 12 with
      | some et => if et = 0x0800 ∨ et = 0x86dd then .packet p else .skip
      | none => .error := by
  rw [strip, if_neg (by rw [List.length_append]; omega), TRV.Proofs.u16_append_left (by omega),
    List.drop_left' hl]
  rfl

theorem strip_packet_iff {f p : Bytes} :
    strip f = .packet p ↔ ∃ eth, eth.length = 14 ∧ (u16 eth 12 = some 0x0800 ∨ u16 eth 12 = some 0x86dd) ∧ f = eth ++ p := by
  constructor
  · intro h
    have hlen : ¬ f.length < 14 := fun hlt => by rw [strip, if_pos hlt] at h; cases h
    have hl : (f.take 14).length = 14 := by rw [List.length_take]; omega
    rw [← List.take_append_drop 14 f, strip_append hl] at h
    refine ⟨f.take 14, hl, ?_⟩
    split at h
    · next et het =>
      by_cases c : et = 0x0800 ∨ et = 0x86dd
      · rw [if_pos c] at h; cases h
        exact ⟨by rw [het]; simpa using c, (List.take_append_drop 14 f).symm⟩
      · rw [if_neg c] at h; cases h
    · cases h
  · rintro ⟨eth, hl, het, rfl⟩
    rw [strip_append hl]
    rcases het with h | h <;> simp [h]

theorem attached_is_last {Prog : Type} (accepts : Prog → Bytes → Bool) (evs : List (Ev Prog)) (s : Source Prog) :
    (evs.foldl (Source.step accepts) s).attached = lastSet s.attached evs := by
  induction evs generalizing s with
  | nil => rfl
  | cons e rest ih =>
    simp only [List.foldl_cons, lastSet]
    rw [ih, lastSet]
    cases e with
    | set p => cases p <;> simp [Source.step, Source.setFilter]
    | frame f => simp [Source.step, Source.arrive]

/-- the queue only ever holds frames that the CURRENTLY attached program accepts: attaching drains
    what was queued under the previous program, and a frame is queued only if the attached program
    lets it through -/
theorem queue_accepted {Prog : Type} (accepts : Prog → Bytes → Bool) (evs : List (Ev Prog)) (s : Source Prog)
    (h : ∀ q, s.attached = some q → ∀ f ∈ s.queue, accepts q f = true) :
    ∀ q, (evs.foldl (Source.step accepts) s).attached = some q →
      ∀ f ∈ (evs.foldl (Source.step accepts) s).queue, accepts q f = true := by
  induction evs generalizing s with
  | nil => simpa using h
  | cons e rest ih =>
    apply ih
    cases e with
    | set p =>
      cases p with
      | none => intro q hq; simp [Source.step, Source.setFilter] at hq
      | some p => intro q hq f hf; simp [Source.step, Source.setFilter] at hf
    | frame g =>
      intro q hq f hf
      simp only [Source.step, Source.arrive] at hq hf
      by_cases hp : s.passes accepts g = true
      · simp only [hp, if_true, List.mem_append, List.mem_singleton] at hf
        rcases hf with hf | rfl
        · exact h q hq f hf
        · simpa [Source.passes, hq] using hp
      · simp only [hp] at hf
        exact h q hq f hf

theorem handUp_eq_some {f p : Bytes} : handUp f = some p ↔ strip f = .packet p ∧ p ≠ [] := by
  unfold handUp
  cases strip f with
  | packet q =>
    cases q with
    | nil => simp
    | cons b q => simpa using fun h : b :: q = p => h ▸ List.cons_ne_nil b q
  | _ => simp

theorem readNext_mem (q : List Bytes) {p : Bytes} {rest : List Bytes} (h : readNext q = some (p, rest)) :
    ∃ f ∈ q, handUp f = some p := by
  induction q with
  | nil => cases h
  | cons f q ih =>
    rw [readNext] at h
    cases hf : handUp f with
    | some p' =>
      rw [hf] at h; cases h
      exact ⟨f, List.mem_cons_self, hf⟩
    | none =>
      rw [hf] at h
      obtain ⟨g, hg, hp⟩ := ih h
      exact ⟨g, List.mem_cons_of_mem _ hg, hp⟩

/-- a read never returns zero bytes: the "Read() returned 0 bytes" failure of `ReadAndParse` cannot be
    provoked by any sequence of frames -/
theorem readNext_nonempty (q : List Bytes) {p : Bytes} {rest : List Bytes} (h : readNext q = some (p, rest)) :
    p ≠ [] := by
  obtain ⟨_, _, hp⟩ := readNext_mem q h
  exact (handUp_eq_some.mp hp).2

theorem readNext_from_queue : ∀ (q : List Bytes) (p : Bytes) (rest : List Bytes),
    readNext q = some (p, rest) → ∃ f ∈ q, strip f = .packet p := by
  intro q p rest h
  obtain ⟨f, hf, hp⟩ := readNext_mem q h
  exact ⟨f, hf, (handUp_eq_some.mp hp).1⟩

end TRV.Proofs.Link
