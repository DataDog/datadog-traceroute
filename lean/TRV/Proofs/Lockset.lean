import TRV.Model.Sync
/-!
# Lockset soundness (C14)

`lockset_sound`: `Disciplined tbl = true → Exec tbl h → RaceFree h`, for any number of threads,
instances and steps.  Two conflicting accesses by different threads are ordered by happens-before in
one of two ways.  Both hold a common mutex (`lock_orders`): by the hand-off lemma (DESIGN Appendix B.8
lifted to the full event type: if `t` owns `m` after `es` and `u ≠ t` owns it after `fs ++ es`, then
`fs` contains `acq u m` and, older than it, `rel t m`) the chain is program order → release/acquire
edge → program order.  Or their rows are ordered by phase or role (`phase_orders`): an access of the
main thread before the fork of a child happens-before every event of the child, and every event of a
child happens-before what the main thread does after the join.
-/
namespace TRV.Proofs.Lockset
open TRV.Sync

section Generic
variable {X M : Type}

theorem HB.suffix {p q : History X M} (h : HB p q) : ∃ b s, q = b :: s ∧ p <:+ s := by
  induction h with
  | po hs _ => exact ⟨_, _, rfl, hs⟩
  | sw hs => exact ⟨_, _, rfl, hs⟩
  | fork hs _ => exact ⟨_, _, rfl, hs⟩
  | join hs _ => exact ⟨_, _, rfl, hs⟩
  | trans _ _ ih1 ih2 =>
    obtain ⟨b, s, rfl, h1⟩ := ih1
    obtain ⟨c, s', rfl, h2⟩ := ih2
    exact ⟨c, s', rfl, h1.trans ((List.suffix_cons b s).trans h2)⟩

theorem mem_between {e a : Ev X M} {s₁ s₂ : History X M} (hne : e ≠ a) (hs : (a :: s₁) <:+ s₂)
    (hin : e ∈ s₂) (hout : e ∉ s₁) : ∃ g, (e :: g) <:+ s₂ ∧ (a :: s₁) <:+ g := by
  obtain ⟨fs, rfl⟩ := hs
  rcases List.mem_append.mp hin with h | h
  · obtain ⟨g1, g2, rfl⟩ := List.append_of_mem h
    exact ⟨g2 ++ a :: s₁, ⟨g1, by simp⟩, ⟨g2, rfl⟩⟩
  · rcases List.mem_cons.mp h with h | h
    · exact absurd h hne
    · exact absurd h hout

theorem mem_of_suffix {e a : Ev X M} {s₁ s₂ : History X M} (hs : (a :: s₁) <:+ s₂) (h : e ∈ s₁) :
    e ∈ s₂ := hs.subset (List.mem_cons_of_mem _ h)

theorem fork_orders {a b : Ev X M} {s₁ s₂ : History X M} (hs : (a :: s₁) <:+ s₂)
    (hacc : a.acc.isSome) (hnf : Ev.fork a.tid b.tid ∉ s₁) (hf : Ev.fork a.tid b.tid ∈ s₂) :
    HB (a :: s₁) (b :: s₂) := by
  obtain ⟨g, hg1, hg2⟩ := mem_between (fun h => by rw [← h] at hacc; cases hacc) hs hf hnf
  exact HB.trans (q := Ev.fork a.tid b.tid :: g) (HB.po hg2 rfl) (HB.fork hg1 rfl)

theorem join_orders {a b : Ev X M} {s₁ s₂ : History X M} (hs : (a :: s₁) <:+ s₂)
    (hacc : a.acc.isSome) (hnj : Ev.join b.tid a.tid ∉ s₁) (hj : Ev.join b.tid a.tid ∈ s₂) :
    HB (a :: s₁) (b :: s₂) := by
  obtain ⟨g, hg1, hg2⟩ := mem_between (fun h => by rw [← h] at hacc; cases hacc) hs hj hnj
  exact HB.trans (q := Ev.join b.tid a.tid :: g) (HB.join hg2 rfl) (HB.po hg1 rfl)

/-- two adjacent accesses by different threads are never ordered: nothing lies between them that
    could carry a synchronisation edge (used for the non-vacuity of `RaceFree`) -/
theorem no_hb_adjacent {a b : Ev X M} (ha : a.acc.isSome) (hb : b.acc.isSome) (hne : a.tid ≠ b.tid) :
    ¬ HB [a] [b, a] := by
  intro h
  generalize hq : [b, a] = q at h
  generalize hp : [a] = p at h
  induction h with
  | po hs ht => cases hp; cases hq; exact hne ht
  | sw hs => cases hp; simp [Ev.acc] at ha
  | fork hs _ => cases hp; simp [Ev.acc] at ha
  | join hs _ => cases hq; simp [Ev.acc] at hb
  | trans h1 h2 _ _ =>
    subst hp; subst hq
    obtain ⟨c, s, rfl, hs1⟩ := HB.suffix h1
    obtain ⟨b', s', hr, hs2⟩ := HB.suffix h2
    cases hr
    have l1 := hs1.length_le
    have l2 := hs2.length_le
    simp only [List.length_cons, List.length_nil] at l1 l2
    omega

variable [DecidableEq M]

theorem WF.tail {e : Ev X M} {es : History X M} (h : WF (e :: es)) : WF es := h.1

theorem WF.suffix {s h : History X M} (hs : s <:+ h) (hw : WF h) : WF s := by
  obtain ⟨p, rfl⟩ := hs
  induction p with
  | nil => simpa using hw
  | cons e p ih => exact ih (WF.tail (by simpa using hw))

theorem owner_access {a : Ev X M} (ha : a.acc.isSome) (m : M) (es : History X M) :
    owner m (a :: es) = owner m es := by
  cases a <;> simp [Ev.acc] at ha <;> simp [owner]

theorem owner_cons (m : M) (e : Ev X M) (es : History X M) :
    owner m (e :: es) = owner m es ∨ (∃ t, e = .acq t m ∧ owner m (e :: es) = some t) ∨
      ∃ t, e = .rel t m ∧ owner m (e :: es) = none := by
  cases e
  case acq t m' =>
    by_cases hm : m' = m
    · subst hm; exact .inr (.inl ⟨t, rfl, by rw [owner, if_pos rfl]⟩)
    · exact .inl (by rw [owner, if_neg hm])
  case rel t m' =>
    by_cases hm : m' = m
    · subst hm; exact .inr (.inr ⟨t, rfl, by rw [owner, if_pos rfl]⟩)
    · exact .inl (by rw [owner, if_neg hm])
  all_goals exact .inl rfl

theorem acquire_inside (m : M) (u : Tid) :
    ∀ (fs es : History X M), owner m (fs ++ es) = some u → owner m es ≠ some u →
      ∃ f1 f2, fs = f1 ++ Ev.acq u m :: f2 := by
  intro fs
  induction fs with
  | nil => intro es h1 h2; exact absurd h1 h2
  | cons e fs ih =>
    intro es h1 h2
    rcases owner_cons m e (fs ++ es) with h | ⟨t, rfl, h⟩ | ⟨t, rfl, h⟩
    · obtain ⟨f1, f2, rfl⟩ := ih es (h ▸ h1) h2
      exact ⟨e :: f1, f2, rfl⟩
    · cases h.symm.trans h1; exact ⟨[], fs, rfl⟩
    · cases h.symm.trans h1

theorem release_inside (m : M) (t : Tid) :
    ∀ (fs es : History X M), WF (fs ++ es) → owner m es = some t → owner m (fs ++ es) ≠ some t →
      Ev.rel t m ∈ fs := by
  intro fs
  induction fs with
  | nil => intro es _ h1 h2; exact absurd h1 h2
  | cons e fs ih =>
    intro es hwf h1 h2
    by_cases hprev : owner m (fs ++ es) = some t
    · -- `e` ended the ownership: a well-formed acquire needs the mutex free, a release is the owner's
      have hstep : StepOK e (fs ++ es) := hwf.2.2
      rcases owner_cons m e (fs ++ es) with h | ⟨t', rfl, -⟩ | ⟨t', rfl, -⟩
      · exact absurd (h.trans hprev) h2
      · rw [StepOK, hprev] at hstep; cases hstep
      · rw [StepOK, hprev] at hstep; cases hstep; exact List.mem_cons_self
    · exact List.mem_cons_of_mem _ (ih es (WF.tail hwf) h1 hprev)

theorem handoff (m : M) (t u : Tid) (hne : t ≠ u) (fs es : History X M)
    (hwf : WF (fs ++ es)) (ht : owner m es = some t) (hu : owner m (fs ++ es) = some u) :
    ∃ f1 f2, fs = f1 ++ Ev.acq u m :: f2 ∧ Ev.rel t m ∈ f2 := by
  have hne' : owner m es ≠ some u := by rw [ht]; intro h; cases h; exact hne rfl
  obtain ⟨f1, f2, rfl⟩ := acquire_inside m u fs es hu hne'
  refine ⟨f1, f2, rfl, ?_⟩
  have hwf2 : WF (Ev.acq u m :: (f2 ++ es)) :=
    WF.suffix (s := Ev.acq u m :: (f2 ++ es)) ⟨f1, by simp⟩ hwf
  have hfree : owner m (f2 ++ es) = none := hwf2.2.2
  apply release_inside m t f2 es hwf2.1 ht
  rw [hfree]; simp

theorem lock_orders {a b : Ev X M} {s₁ s₂ : History X M} {m : M}
    (hwf : WF s₂) (hs : (a :: s₁) <:+ s₂) (hacc : a.acc.isSome) (hne : a.tid ≠ b.tid)
    (ha : owner m s₁ = some a.tid) (hb : owner m s₂ = some b.tid) : HB (a :: s₁) (b :: s₂) := by
  obtain ⟨fs, rfl⟩ := hs
  have ha' : owner m (a :: s₁) = some a.tid := by rw [owner_access hacc]; exact ha
  obtain ⟨f1, f2, rfl, hrel⟩ := handoff m a.tid b.tid hne fs (a :: s₁) hwf ha' hb
  obtain ⟨g1, g2, rfl⟩ := List.append_of_mem hrel
  exact .trans (q := Ev.rel a.tid m :: (g2 ++ a :: s₁)) (.po ⟨g2, rfl⟩ rfl)
    (.trans (q := Ev.acq b.tid m :: ((g1 ++ Ev.rel a.tid m :: g2) ++ a :: s₁)) (.sw ⟨g1, by simp⟩)
      (.po ⟨f1, by simp⟩ rfl))

end Generic

section Table
variable {L K : Type}

theorem writeLike_of_kind {r : Row L K} {k : Acc} (hk : kindMatch r k) (hne : k ≠ .rd) :
    r.writeLike = true := by
  cases k
  · exact absurd rfl hne
  · simp [kindMatch] at hk; simp [Row.writeLike, hk.1]
  · simp [kindMatch] at hk; simp [Row.writeLike, hk]

theorem at_of_atomic {r : Row L K} {k : Acc} (hk : kindMatch r k) (ha : r.atomic = true) : k = .at := by
  cases k
  · simp [kindMatch, ha] at hk
  · simp [kindMatch, ha] at hk
  · rfl

theorem phase_orders {cx : Ctx} {i : Inst} {ra rb : Row L K} {a b : Ev (L × Inst) (K × Inst)}
    {s₁ s₂ : History (L × Inst) (K × Inst)}
    (hsingle : ∀ t u i r, cx.role t i = some r → cx.role u i = some r → r.multi = false → t = u)
    (ha : (a :: s₁) <:+ s₂) (haS : a.acc.isSome) (hne : a.tid ≠ b.tid)
    (hlive_a : ∀ p, Ev.join p a.tid ∉ s₁) (hlive_b : ∀ p, Ev.join p b.tid ∉ s₂)
    (hpa : PhaseOK cx ra a.tid i s₁) (hpb : PhaseOK cx rb b.tid i s₂) (hord : ordered ra rb = true) :
    HB (a :: s₁) (b :: s₂) := by
  unfold PhaseOK at hpa hpb
  cases hphA : ra.phase <;> cases hphB : rb.phase <;> simp only [hphA, hphB] at hpa hpb
  case init.init | init.final | final.init | final.final => exact absurd (hpa.1.trans hpb.1.symm) hne
  case init.mid =>
    rcases hpb with ⟨-, hu⟩ | ⟨hrole, hru, hf⟩
    · exact absurd (hpa.1.trans hu.symm) hne
    · have hchild : cx.child b.tid i := ⟨rb.role, hru, hrole⟩
      rw [← hpa.1] at hf
      exact fork_orders ha haS (hpa.2 _ hchild) hf
  case mid.init =>
    rcases hpa with ⟨-, ht⟩ | ⟨hrole, hrt, hf⟩
    · exact absurd (ht.trans hpb.1.symm) hne
    · have hchild : cx.child a.tid i := ⟨ra.role, hrt, hrole⟩
      rw [← hpb.1] at hf
      exact absurd (mem_of_suffix ha hf) (hpb.2 _ hchild)
  case mid.final =>
    rcases hpa with ⟨-, ht⟩ | ⟨hrole, hrt, hf⟩
    · exact absurd (ht.trans hpb.1.symm) hne
    · have hchild : cx.child a.tid i := ⟨ra.role, hrt, hrole⟩
      rw [← hpb.1] at hf
      exact join_orders ha haS (hlive_a _) (hpb.2 _ hchild (mem_of_suffix ha hf))
  case final.mid =>
    rcases hpb with ⟨-, hu⟩ | ⟨hrole, hru, hf⟩
    · exact absurd (hpa.1.trans hu.symm) hne
    · have hchild : cx.child b.tid i := ⟨rb.role, hru, hrole⟩
      rw [← hpa.1] at hf
      by_cases hold : Ev.fork a.tid b.tid ∈ s₁
      · exact absurd (mem_of_suffix ha (hpa.2 _ hchild hold)) (hlive_b _)
      · exact fork_orders ha haS hold hf
  case mid.mid =>
    simp only [ordered, hphA, hphB, bne_self_eq_false, Bool.false_or, Bool.and_eq_true,
      beq_iff_eq, Bool.not_eq_true'] at hord
    obtain ⟨hroles, hmulti⟩ := hord
    rcases hpa with ⟨hma, ht⟩ | ⟨hrole, hrt, -⟩
    · rcases hpb with ⟨-, hu⟩ | ⟨hroleb, -, -⟩
      · exact absurd (ht.trans hu.symm) hne
      · exact absurd (hroles ▸ hma) hroleb
    · rcases hpb with ⟨hmb, -⟩ | ⟨-, hru, -⟩
      · exact absurd (hroles ▸ hmb) hrole
      · rw [← hroles] at hru
        exact absurd (hsingle _ _ i _ hrt hru hmulti) hne

variable [DecidableEq L] [DecidableEq K]

theorem pairOK_of_not_hot {a b : Row L K} (ha : a.hot = false) (hb : b.hot = false) :
    pairOK a b = true := by
  simp only [Row.hot, Bool.or_eq_false_iff, Bool.and_eq_false_iff, beq_eq_false_iff_ne, ne_eq] at ha hb
  have hsa : a.scope = .run := by cases h : a.scope <;> simp_all
  have hsb : b.scope = .run := by cases h : b.scope <;> simp_all
  simp only [pairOK, ordered, hsa, hsb, beq_self_eq_true, Bool.true_and]
  rcases ha.2 with h | h <;> rcases hb.2 with h' | h' <;> simp [h, h']

theorem pairOK_of_disciplined {tbl : List (Row L K)} (hd : Disciplined tbl = true) {a b : Row L K}
    (ha : a ∈ tbl) (hb : b ∈ tbl) : pairOK a b = true := by
  have h1 := List.all_eq_true.mp hd a ha
  have h2 := List.all_eq_true.mp hd b hb
  simp only [Bool.or_eq_true, Bool.not_eq_true', List.all_eq_true, Bool.and_eq_true] at h1 h2
  rcases h1 with h1 | h1
  · rcases h2 with h2 | h2
    · exact pairOK_of_not_hot h1 h2
    · exact (h2 a ha).2
  · exact (h1 b hb).1

omit [DecidableEq L] in
theorem commonLock_comm (a b : Row L K) : commonLock a b = commonLock b a := by
  rw [Bool.eq_iff_iff]
  simp only [commonLock, List.any_eq_true, List.contains_iff_mem]
  exact ⟨fun ⟨m, h1, h2⟩ => ⟨m, h2, h1⟩, fun ⟨m, h1, h2⟩ => ⟨m, h2, h1⟩⟩

omit [DecidableEq L] [DecidableEq K] in
theorem ordered_comm (a b : Row L K) : ordered a b = ordered b a := by
  unfold ordered
  by_cases h : a.role = b.role
  · rw [h, Bool.or_comm (a.phase != .mid)]
  · simp [beq_false_of_ne h, beq_false_of_ne (Ne.symm h), Bool.or_comm]

theorem pairOK_comm (a b : Row L K) : pairOK a b = pairOK b a := by
  simp only [pairOK, commonLock_comm a b, ordered_comm a b, bne_comm (a := a.loc), Bool.or_comm a.writeLike,
    Bool.and_comm a.atomic, Bool.and_comm (a.scope == .run)]

/-- The form in which the kernel evaluates a concrete table: each pair in one direction only, the
    locations compared first, and every row taken apart once and used without its site string.  The
    check never reads the site, but the kernel pays for the string literal at every step that touches
    a row carrying it. -/
theorem disciplined_eq (tbl : List (Row L K)) :
    Disciplined tbl = tbl.all fun
      | ⟨la, sa, ra, pa, ka, ma, aa, _⟩ => !Row.hot ⟨la, sa, ra, pa, ka, ma, aa, ""⟩ || tbl.all fun
        | ⟨lb, sb, rb, pb, kb, mb, ab, _⟩ =>
          la != lb || pairOK ⟨la, sa, ra, pa, ka, ma, aa, ""⟩ ⟨lb, sb, rb, pb, kb, mb, ab, ""⟩ := by
  calc Disciplined tbl
    _ = tbl.all fun a => !a.hot || tbl.all fun b => a.loc != b.loc || pairOK a b := by
      unfold Disciplined
      congr; funext a; congr; funext b
      rw [← pairOK_comm a b, Bool.and_self]
      simp [pairOK, Bool.or_assoc]

theorem lockset_sound (tbl : List (Row L K)) (hd : Disciplined tbl = true)
    (h : History (L × Inst) (K × Inst)) (hex : Exec tbl h) : RaceFree h := by
  obtain ⟨hwf, cx, hsingle, hsite⟩ := hex
  intro a s₁ b s₂ hb ha hconf
  obtain ⟨hne, x, ka, sa, kb, sb, haacc, hbacc, hwr, hnat⟩ := hconf
  obtain ⟨l, i⟩ := x
  have ha' : (a :: s₁) <:+ h := ha.trans ((List.suffix_cons b s₂).trans hb)
  have haS : a.acc.isSome := by rw [haacc]; rfl
  obtain ⟨ra, hra, -, hral, hrak, hralk, hraph⟩ := hsite a s₁ ha' l i ka sa haacc
  obtain ⟨rb, hrb, -, hrbl, hrbk, hrblk, hrbph⟩ := hsite b s₂ hb l i kb sb hbacc
  have hpair : pairOK ra rb = true := pairOK_of_disciplined hd hra hrb
  have hwfb : WF (b :: s₂) := WF.suffix hb hwf
  have hwfa : WF (a :: s₁) := WF.suffix ha' hwf
  simp only [pairOK, Bool.or_eq_true, Bool.and_eq_true, bne_iff_ne, ne_eq, beq_iff_eq,
    Bool.not_eq_true'] at hpair
  rcases hpair with ((hloc | hnw) | hat) | ⟨⟨hsa, hsb⟩, hlk | hord⟩
  · exact absurd (hral.trans hrbl.symm) hloc
  · -- neither row is write-like: then both events are plain reads
    rcases hwr.imp (writeLike_of_kind hrak) (writeLike_of_kind hrbk) with h | h <;> simp [h] at hnw
  · exact absurd ⟨at_of_atomic hrak hat.1, at_of_atomic hrbk hat.2⟩ hnat
  · -- a common mutex: hand-off
    simp only [commonLock, List.any_eq_true, List.contains_iff_mem] at hlk
    obtain ⟨m, hma, hmb⟩ := hlk
    exact lock_orders hwfb.1 ha haS hne (hralk m hma) (hrblk m hmb)
  · exact phase_orders hsingle ha haS hne hwfa.2.1 hwfb.2.1 (hraph hsa) (hrbph hsb) hord

end Table

/-! ## A concrete execution (non-vacuity of `Exec`, used by `TRV.Props.C14`) -/
namespace Demo

def tbl : List (Row String String) := [
  ⟨"x", .run, .main, .init, .wr, [], false, "I"⟩,
  ⟨"x", .run, .sender, .mid, .wr, ["mu"], false, "S"⟩,
  ⟨"x", .run, .receiver, .mid, .rd, ["mu"], false, "R"⟩,
  ⟨"x", .run, .main, .final, .rd, [], false, "F"⟩ ]

/-- most recent first: init write; fork sender (1) and receiver (2); both touch `x` under `mu`
    (hand-off from 1 to 2); joins; final read -/
def hist : History (String × Inst) (String × Inst) := [
  .rd 0 ("x", 7) "F", .join 0 2, .join 0 1,
  .rel 2 ("mu", 7), .rd 2 ("x", 7) "R", .acq 2 ("mu", 7),
  .rel 1 ("mu", 7), .wr 1 ("x", 7) "S", .acq 1 ("mu", 7),
  .fork 0 2, .fork 0 1, .wr 0 ("x", 7) "I" ]

def cx : Ctx where
  role := fun t _ => [Role.main, .sender, .receiver][t]?
  main := fun _ => 0

theorem hist_exec : Exec tbl hist := by
  refine ⟨by simp [hist, WF, StepOK, owner, Ev.tid], cx, ?_, ?_⟩
  · intro t u i r ht hu _
    have hlt : t < 3 := (List.getElem?_eq_some_iff.mp ht).1
    exact (List.getElem?_inj hlt (by decide)).mp (ht.trans hu.symm)
  · intro e s hs
    simp only [hist, List.suffix_cons_iff, List.suffix_nil] at hs
    rcases hs with h | h | h | h | h | h | h | h | h | h | h | h | h <;> cases h <;>
      intro l i k site hacc <;> cases hacc
    · refine ⟨⟨"x", .run, .main, .final, .rd, [], false, "F"⟩, by simp [tbl], rfl, rfl, ⟨rfl, rfl⟩,
        by simp, fun _ => ?_⟩
      simp [PhaseOK, cx, Ev.tid]
    · refine ⟨⟨"x", .run, .receiver, .mid, .rd, ["mu"], false, "R"⟩, by simp [tbl], rfl, rfl,
        ⟨rfl, rfl⟩, by simp [owner, Ev.tid], fun _ => ?_⟩
      simp [PhaseOK, cx, Ev.tid]
    · refine ⟨⟨"x", .run, .sender, .mid, .wr, ["mu"], false, "S"⟩, by simp [tbl], rfl, rfl,
        ⟨rfl, rfl⟩, by simp [owner, Ev.tid], fun _ => ?_⟩
      simp [PhaseOK, cx, Ev.tid]
    · refine ⟨⟨"x", .run, .main, .init, .wr, [], false, "I"⟩, by simp [tbl], rfl, rfl, ⟨rfl, rfl⟩,
        by simp, fun _ => ?_⟩
      simp [PhaseOK, cx, Ev.tid]

end Demo

end TRV.Proofs.Lockset
