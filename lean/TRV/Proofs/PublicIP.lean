import TRV.Spec.Enrich
import TRV.Model.Timed
/-!
# Public-IP discovery (C18, and its part of C08)

`classify` is `handleRequest` in the specification's vocabulary (`classify_eq`).  `retry` runs
through a retryable prefix whose waits fit the budget (`ReachesFrom`, `retry_ff`) and stops at the
first attempt that is not retryable; conversely a success was reached that way (`retry_ok_reaches`).
`GetPublicIP` then computes the executable reference (`getFrom_result`), which agrees with the
declarative one (`firstValid_iff`).  Last, the elapsed-time bounds that C08 uses.  The namespace is
`TRV.Proofs.Enr`, shared with `Proofs/Cache.lean` and `Proofs/Enrich.lean`.
-/
namespace TRV.Proofs.Enr
open TRV TRV.Enrich TRV.Spec.Enr

theorem classify_eq (a : Attempt) :
    classify a = if final a then .permanent else match valid a with
      | some ip => .ok ip
      | none => .transient := by
  cases a with
  | resp st body d =>
    simp only [classify, final, valid, ← Bool.decide_and]
    by_cases h : 400 ≤ st ∧ st < 500
    · simp [h]
    · cases parseBody body <;> simp [h]
  | _ => rfl

theorem valid_of_final {a : Attempt} (h : final a = true) : valid a = none := by
  cases a with
  | resp st body d =>
    simp only [final, ← Bool.decide_and, Bool.or_eq_true, decide_eq_true_eq, Option.isNone_iff_eq_none] at h
    simp only [valid]
    split
    · rfl
    · exact h.resolve_left ‹_›
  | _ => rfl

theorem classify_ok_iff (a : Attempt) (ip : Bytes) : classify a = .ok ip ↔ valid a = some ip := by
  rw [classify_eq]
  cases hf : final a with
  | true => simp [valid_of_final hf]
  | false => cases valid a <;> simp

theorem classify_permanent_iff (a : Attempt) : classify a = .permanent ↔ final a = true := by
  rw [classify_eq]
  cases final a <;> cases valid a <;> simp

theorem classify_transient_iff (a : Attempt) : classify a = .transient ↔ retryable a = true := by
  rw [classify_eq, retryable]
  cases final a <;> cases valid a <;> simp

/-- time consumed by the first `k` (attempt, wait) pairs -/
def waitSum (script : List Attempt) (ivals : List Nat) (k : Nat) : Nat :=
  (((script.zip ivals).take k).map fun ab => ab.1.dur + ab.2).sum

theorem endOfWait_eq (p : Provider) (j : Nat) : endOfWait p j = waitSum p.script p.ivals (j + 1) := rfl

theorem waitSum_cons (a : Attempt) (rest : List Attempt) (b : Nat) (bs : List Nat) (k : Nat) :
    waitSum (a :: rest) (b :: bs) (k + 1) = a.dur + b + waitSum rest bs k := by
  simp [waitSum]

theorem waitSum_zero (script : List Attempt) (ivals : List Nat) : waitSum script ivals 0 = 0 := by
  simp [waitSum]

theorem waitSum_mono (script : List Attempt) (ivals : List Nat) {j k : Nat} (h : j ≤ k) :
    waitSum script ivals j ≤ waitSum script ivals k := by
  obtain ⟨d, rfl⟩ := Nat.exists_eq_add_of_le h
  simp only [waitSum, List.take_add, List.map_append, List.sum_append]
  omega

/-- attempts `0..k-1` were retryable and each following wait ended before the deadline -/
def ReachesFrom (el B : Nat) (script : List Attempt) (ivals : List Nat) (k : Nat) : Prop :=
  ∀ j, j < k → (∃ a b, script[j]? = some a ∧ retryable a = true ∧ ivals[j]? = some b) ∧
    el + waitSum script ivals (j + 1) < B

theorem reachesFrom_zero {el B : Nat} {script : List Attempt} {ivals : List Nat} :
    ReachesFrom el B script ivals 0 :=
  fun _ hj => absurd hj (Nat.not_lt_zero _)

theorem reachesFrom_cons_iff {el B : Nat} {a : Attempt} {rest : List Attempt} {b : Nat} {bs : List Nat} {k : Nat} :
    ReachesFrom el B (a :: rest) (b :: bs) (k + 1) ↔
      retryable a = true ∧ el + a.dur + b < B ∧ ReachesFrom (el + a.dur + b) B rest bs k := by
  -- `j = 0` is the clause of the head; in the others `waitSum_cons` moves the head's wait into `el`
  simp only [ReachesFrom, Nat.forall_lt_succ_left, waitSum_cons, waitSum_zero, List.getElem?_cons_zero,
    List.getElem?_cons_succ, Option.some.injEq, exists_and_left, exists_eq_left', exists_eq', and_true,
    Nat.add_zero, Nat.add_assoc, and_assoc]

theorem retry_step_transient {B el n : Nat} {a : Attempt} {rest : List Attempt} {b : Nat} {bs : List Nat}
    (hB : B ≤ maxElapsedTime) (hr : retryable a = true) (hlt : el + a.dur + b < B) :
    retry B (a :: rest) (b :: bs) el n = retry B rest bs (el + a.dur + b) (n + 1) := by
  have hc := (classify_transient_iff a).mpr hr
  have h1 : ¬ B ≤ el + a.dur := by omega
  have h2 : ¬ el + a.dur + b > maxElapsedTime := by omega
  have h3 : ¬ B ≤ el + a.dur + b := by omega
  simp only [retry, hc, h1, h2, h3, if_false]

theorem retry_ff {B : Nat} (hB : B ≤ maxElapsedTime) {k : Nat} {script : List Attempt} {ivals : List Nat}
    {el n : Nat} (h : ReachesFrom el B script ivals k) :
    retry B script ivals el n =
      retry B (script.drop k) (ivals.drop k) (el + waitSum script ivals k) (n + k) := by
  induction k generalizing script ivals el n with
  | zero => simp [waitSum_zero]
  | succ k ih =>
    -- attempt 0 and its wait exist
    obtain ⟨⟨_, _, ha, -, hb⟩, -⟩ := h 0 (Nat.succ_pos _)
    match script, ivals, ha, hb, h with
    | a :: rest, b :: bs, _, _, h =>
      obtain ⟨hr, hlt, h'⟩ := reachesFrom_cons_iff.mp h
      rw [retry_step_transient hB hr hlt, ih h', waitSum_cons]
      congr 1 <;> omega

theorem retry_head_ok {B el n : Nat} {a : Attempt} {rest : List Attempt} {ivals : List Nat} {ip : Bytes}
    (hv : valid a = some ip) : retry B (a :: rest) ivals el n = ⟨.ok ip, n + 1, el + a.dur⟩ := by
  simp only [retry, (classify_ok_iff a ip).mpr hv]

theorem retry_head_final {B el n : Nat} {a : Attempt} {rest : List Attempt} {ivals : List Nat}
    (hf : final a = true) : retry B (a :: rest) ivals el n = ⟨.permanent, n + 1, el + a.dur⟩ := by
  simp only [retry, (classify_permanent_iff a).mpr hf]

theorem retry_succeeds {B : Nat} (hB : B ≤ maxElapsedTime) {script : List Attempt} {ivals : List Nat}
    {el n k : Nat} {a : Attempt} {ip : Bytes}
    (hr : ReachesFrom el B script ivals k) (ha : script[k]? = some a) (hv : valid a = some ip) :
    retry B script ivals el n = ⟨.ok ip, n + k + 1, el + waitSum script ivals k + a.dur⟩ := by
  obtain ⟨hk, rfl⟩ := List.getElem?_eq_some_iff.mp ha
  rw [retry_ff hB hr, List.drop_eq_getElem_cons hk, retry_head_ok hv]

theorem retry_final {B : Nat} (hB : B ≤ maxElapsedTime) {script : List Attempt} {ivals : List Nat}
    {el n k : Nat} {a : Attempt}
    (hr : ReachesFrom el B script ivals k) (ha : script[k]? = some a) (hf : final a = true) :
    retry B script ivals el n = ⟨.permanent, n + k + 1, el + waitSum script ivals k + a.dur⟩ := by
  obtain ⟨hk, rfl⟩ := List.getElem?_eq_some_iff.mp ha
  rw [retry_ff hB hr, List.drop_eq_getElem_cons hk, retry_head_final hf]

/-! The cases of `retry` (`fun_induction`), with what each hands over (`el' := el + a.dur`): 1 `ivals el n`: the
script is empty; the head `a` 2 `a rest ivals el n el' ip hc`: succeeds; 3 `a rest ivals el n el' hc`: fails for
good; it is retryable and 4 `… el' hc h1`: the context is done; 5 `a rest el n el' hc h1`: no interval is left;
6 `… el' hc h1 b bs h2`: the wait `b` would pass `MaxElapsedTime`; 7 `… b bs h2 h3`: the context ends the
wait; 8 `… b bs h2 h3 ih`: the loop goes on after the wait (the one recursive case).  (`| caseN …` names them
from the first, `case caseN … =>` from the last.)  Those of `getFrom` are named where they occur. -/

theorem retry_ok_reaches {B : Nat} {script : List Attempt} {ivals : List Nat} {el n : Nat} {ip : Bytes}
    (h : (retry B script ivals el n).out = .ok ip) :
    ∃ k a, ReachesFrom el B script ivals k ∧ script[k]? = some a ∧ valid a = some ip := by
  -- of the eight branches of `retry` only two can end in `.ok`: the head succeeds (2), or it is retryable,
  -- the wait fits and the loop goes on (8, the recursive call)
  fun_induction retry B script ivals el n
  case case2 ip' hc =>
    obtain rfl : ip' = ip := by simpa using h
    exact ⟨0, _, reachesFrom_zero, rfl, (classify_ok_iff _ _).mp hc⟩
  case case8 hc _ b bs _ h3 ih =>
    obtain ⟨k, a', hr, ha', hv⟩ := ih h
    exact ⟨k + 1, a', reachesFrom_cons_iff.mpr ⟨(classify_transient_iff _).mp hc, by omega, hr⟩, ha', hv⟩
  all_goals cases h

theorem succeedsAt_iff (p : Provider) (k : Nat) (ip : Bytes) :
    SucceedsAt p k ip ↔ (∃ a, p.script[k]? = some a ∧ valid a = some ip) ∧
      ReachesFrom 0 p.budget p.script p.ivals k := by
  simp only [ReachesFrom, Nat.zero_add]
  rfl

theorem run_ok_iff {p : Provider} (hB : p.budget ≤ maxElapsedTime) (ip : Bytes) :
    p.run.out = .ok ip ↔ ∃ k, SucceedsAt p k ip := by
  simp only [succeedsAt_iff]
  constructor
  · intro h
    obtain ⟨k, a, hr, ha, hv⟩ := retry_ok_reaches h
    exact ⟨k, ⟨a, ha, hv⟩, hr⟩
  · rintro ⟨k, ⟨a, ha, hv⟩, hr⟩
    rw [Provider.run, retry_succeeds hB hr ha hv]

theorem run_attempts_of_succeedsAt {p : Provider} (hB : p.budget ≤ maxElapsedTime) {k : Nat} {ip : Bytes}
    (hs : SucceedsAt p k ip) : p.run.attempts = k + 1 := by
  obtain ⟨⟨a, ha, hv⟩, hr⟩ := (succeedsAt_iff p k ip).mp hs
  rw [Provider.run, retry_succeeds hB hr ha hv, Nat.zero_add]

theorem findIdx_eq_iff_getElem? {α : Type} {xs : List α} {q : α → Bool} {k : Nat} {a : α} (ha : xs[k]? = some a) :
    xs.findIdx q = k ↔ q a = true ∧ ∀ j, j < k → ∃ b, xs[j]? = some b ∧ q b = false := by
  obtain ⟨hk, hak⟩ := List.getElem?_eq_some_iff.mp ha
  rw [List.findIdx_eq hk, hak]
  refine and_congr_right fun _ =>
    ⟨fun h j hj => ⟨_, List.getElem?_eq_getElem (Nat.lt_trans hj hk), h j hj⟩, fun h j hj => ?_⟩
  obtain ⟨b, hb, hq⟩ := h j hj
  exact (List.getElem?_eq_some_iff.mp hb).2 ▸ hq

theorem valid_not_retryable {a : Attempt} {ip : Bytes} (h : valid a = some ip) : retryable a = false := by
  simp [retryable, h]

/-- `SucceedsAt` with the conditions on the prefix in closed form: `k` is the first attempt that is not
    retryable, enough intervals were drawn, and the last wait (hence every wait) ended before the deadline -/
theorem succeedsAt_iff_findIdx (p : Provider) (k : Nat) (ip : Bytes) :
    SucceedsAt p k ip ↔ p.script.findIdx (fun a => !retryable a) = k ∧
      (∃ a, p.script[k]? = some a ∧ valid a = some ip) ∧
      (k = 0 ∨ k ≤ p.ivals.length ∧ endOfWait p (k - 1) < p.budget) := by
  rw [and_left_comm, SucceedsAt]
  refine and_congr_right fun ⟨a, ha, hv⟩ => ?_
  rw [findIdx_eq_iff_getElem? ha]
  simp only [valid_not_retryable hv, Bool.not_false, true_and, Bool.not_eq_false']
  constructor
  · intro h
    refine ⟨fun j hj => ?_, ?_⟩
    · obtain ⟨⟨a', _, ha', hr', _⟩, _⟩ := h j hj
      exact ⟨a', ha', hr'⟩
    · cases k with
      | zero => exact .inl rfl
      | succ k =>
        obtain ⟨⟨_, b, _, _, hb⟩, hlt⟩ := h k (Nat.lt_succ_self k)
        exact .inr ⟨(List.getElem?_eq_some_iff.mp hb).1, hlt⟩
  · rintro ⟨hpre, hk⟩ j hj
    obtain ⟨a', ha', hr'⟩ := hpre j hj
    obtain rfl | ⟨hlen, hlt⟩ := hk
    · exact absurd hj (Nat.not_lt_zero _)
    · have hjl : j < p.ivals.length := by omega
      refine ⟨⟨a', p.ivals[j], ha', hr', List.getElem?_eq_getElem hjl⟩, ?_⟩
      have := waitSum_mono p.script p.ivals (j := j + 1) (k := k - 1 + 1) (by omega)
      rw [endOfWait_eq] at hlt ⊢
      omega

theorem providerYield_iff (p : Provider) (ip : Bytes) :
    providerYield p = some ip ↔ ∃ k, SucceedsAt p k ip := by
  simp only [succeedsAt_iff_findIdx, providerYield, exists_eq_left']
  generalize p.script.findIdx (fun a => !retryable a) = k
  cases p.script[k]? with
  | none => simp
  | some a =>
    cases hv : valid a with
    | none => simp [hv]
    | some ip' =>
      by_cases h0 : k = 0
      · simp [h0, hv]
      · by_cases hc : k ≤ p.ivals.length ∧ endOfWait p (k - 1) < p.budget <;> simp [h0, hc, hv]

theorem providerYield_isSome_iff (p : Provider) : (providerYield p).isSome = true ↔ Succeeds p := by
  simp only [Option.isSome_iff_exists, providerYield_iff, Succeeds]
  exact exists_comm

theorem firstValid_cons (p : Provider) (ps : List Provider) :
    firstValid (p :: ps) = match providerYield p with
      | some ip => some (0, ip)
      | none => (firstValid ps).map fun x => (x.1 + 1, x.2) := by
  simp only [firstValid, List.findIdx_cons]
  cases hy : providerYield p with
  | some ip => simp [hy]
  | none =>
    simp only [Option.isSome_none, cond_false, List.getElem?_cons_succ]
    cases ps[ps.findIdx fun p => (providerYield p).isSome]? with
    | none => rfl
    | some q => simp [Option.map_map, Function.comp_def]

theorem FirstValid_cons_zero (p : Provider) (ps : List Provider) (ip : Bytes) :
    FirstValid (p :: ps) 0 ip ↔ ∃ k, SucceedsAt p k ip := by
  simp [FirstValid]

theorem FirstValid_cons_succ (p : Provider) (ps : List Provider) (j : Nat) (ip : Bytes) :
    FirstValid (p :: ps) (j + 1) ip ↔ ¬ Succeeds p ∧ FirstValid ps j ip := by
  simp only [FirstValid, Nat.forall_lt_succ_left, List.getElem?_cons_zero, List.getElem?_cons_succ,
    Option.some.injEq, forall_eq']
  exact and_left_comm

theorem firstValid_iff (ps : List Provider) (i : Nat) (ip : Bytes) :
    firstValid ps = some (i, ip) ↔ FirstValid ps i ip := by
  induction ps generalizing i with
  | nil => simp [firstValid, FirstValid]
  | cons p ps ih =>
    rw [firstValid_cons]
    cases i with
    | zero =>
      rw [FirstValid_cons_zero, ← providerYield_iff]
      cases providerYield p <;> simp
    | succ j =>
      rw [FirstValid_cons_succ, ← ih j, ← providerYield_isSome_iff]
      cases providerYield p <;> simp

theorem firstValid_eq_none_iff (ps : List Provider) : firstValid ps = none ↔ ∀ p ∈ ps, ¬ Succeeds p := by
  induction ps with
  | nil => simp [firstValid]
  | cons p ps ih =>
    rw [firstValid_cons, List.forall_mem_cons, ← ih, ← providerYield_isSome_iff]
    cases providerYield p <;> simp

theorem getFrom_cons_ok {i : Nat} {p : Provider} {ps : List Provider} {ip : Bytes}
    (h : p.run.out = .ok ip) : getFrom i (p :: ps) = ⟨some (i, ip), [p.run]⟩ := by
  simp [getFrom, h]

theorem getFrom_cons_fail {i : Nat} {p : Provider} {ps : List Provider}
    (h : ∀ ip, p.run.out ≠ .ok ip) :
    getFrom i (p :: ps) = ⟨(getFrom (i + 1) ps).result, p.run :: (getFrom (i + 1) ps).trace⟩ := by
  cases ho : p.run.out with
  | ok ip => exact absurd ho (h ip)
  | _ => simp [getFrom, ho]

theorem getFrom_result (i0 : Nat) (ps : List Provider) (hb : ∀ p ∈ ps, p.budget ≤ maxElapsedTime) :
    (getFrom i0 ps).result = (firstValid ps).map fun x => (i0 + x.1, x.2) := by
  fun_induction getFrom i0 ps with
  | case1 => rfl
  | case2 i p ps r ip hok =>
    have := (providerYield_iff p ip).mpr ((run_ok_iff (hb p List.mem_cons_self) ip).mp hok)
    rw [firstValid_cons, this]; rfl
  | case3 i p ps r g hfail ih =>
    have : providerYield p = none := Option.eq_none_iff_forall_ne_some.mpr fun ip h =>
      hfail ip ((run_ok_iff (hb p List.mem_cons_self) ip).mpr ((providerYield_iff p ip).mp h))
    rw [firstValid_cons, this, ih fun q hq => hb q (List.mem_cons_of_mem _ hq)]
    simp [Option.map_map, Function.comp_def, Nat.add_assoc, Nat.add_comm 1]

theorem getFrom_trace (i0 : Nat) (ps : List Provider) :
    (getFrom i0 ps).trace = (ps.take (getFrom i0 ps).trace.length).map Provider.run := by
  fun_induction getFrom i0 ps with
  | case1 => rfl
  | case2 => rfl
  | case3 i p ps r g hfail ih => exact congrArg (r :: ·) ih

theorem getFrom_trace_length_some (i0 : Nat) (ps : List Provider) {j : Nat} {ip : Bytes}
    (h : (getFrom i0 ps).result = some (j, ip)) : i0 + (getFrom i0 ps).trace.length = j + 1 := by
  fun_induction getFrom i0 ps with
  | case1 => cases h
  | case2 => cases h; rfl
  | case3 i p ps r g hfail ih =>
    have : i + 1 + g.trace.length = j + 1 := ih h
    simp only [List.length_cons]
    omega

theorem getFrom_trace_length_none (i0 : Nat) (ps : List Provider) (h : (getFrom i0 ps).result = none) :
    (getFrom i0 ps).trace.length = ps.length := by
  fun_induction getFrom i0 ps with
  | case1 => rfl
  | case2 => cases h
  | case3 i p ps r g hfail ih => exact congrArg (· + 1) (ih h)

/-- whatever the endpoint does, `backoff.Retry` under the per-provider context returns within the
    budget plus the duration of one attempt -/
theorem retry_elapsed_le {B op : Nat} (script : List Attempt) (ivals : List Nat) (el n : Nat)
    (hop : ∀ a ∈ script, a.dur ≤ op) (hel : el ≤ B) :
    (retry B script ivals el n).elapsed ≤ B + op := by
  fun_induction retry B script ivals el n
  case case1 => exact Nat.le_add_right_of_le hel
  case case8 ih => exact ih (fun a' h => hop a' (List.mem_cons_of_mem _ h)) (by omega)
  -- every other branch stops after the head, at `el + a.dur` or at `B`
  all_goals have := hop _ List.mem_cons_self; simp only; omega

theorem run_elapsed_le {op : Nat} (p : Provider) (hop : ∀ a ∈ p.script, a.dur ≤ op) :
    p.run.elapsed ≤ p.budget + op :=
  retry_elapsed_le p.script p.ivals 0 0 hop (Nat.zero_le _)

theorem getFrom_elapsed_le_of {C : Nat} (i0 : Nat) (ps : List Provider) (h : ∀ p ∈ ps, p.run.elapsed ≤ C) :
    (getFrom i0 ps).elapsed ≤ ps.length * C := by
  fun_induction getFrom i0 ps with
  | case1 => exact Nat.zero_le _
  | case2 i p ps r ip hok =>
    have : r.elapsed ≤ C := h p List.mem_cons_self
    simp only [GRes.elapsed, List.map_cons, List.map_nil, List.sum_cons, List.sum_nil, List.length_cons, Nat.succ_mul]
    omega
  | case3 i p ps r g hfail ih =>
    have : r.elapsed ≤ C := h p List.mem_cons_self
    have : g.elapsed ≤ ps.length * C := ih fun q hq => h q (List.mem_cons_of_mem _ hq)
    simp only [GRes.elapsed, List.map_cons, List.sum_cons, List.length_cons, Nat.succ_mul] at this ⊢
    omega

/-- the same when every attempt honours the per-provider context (`Timed.HonoursCtx`): within the
    budget plus `eps` -/
theorem retry_honours_le {budget eps : Nat} (script : List Attempt) (ivals : List Nat) (el n : Nat)
    (hh : Timed.HonoursCtx budget eps script ivals el) (hel : el ≤ budget + eps) :
    (retry budget script ivals el n).elapsed ≤ budget + eps := by
  -- every way out of the loop is the end of an attempt, except: the script is empty (1), the
  -- context ends the wait before the next attempt (7); 8 is the next attempt
  fun_induction retry budget script ivals el n
  case case1 => exact hel
  case case7 => exact Nat.le_add_right ..
  case case8 hlt ih => exact ih hh.2 (Nat.le_trans (Nat.le_of_lt (Nat.lt_of_not_ge hlt)) (Nat.le_add_right ..))
  all_goals exact hh.1

theorem getFrom_honours_le {B eps : Nat} (i0 : Nat) (ps : List Provider)
    (h : ∀ p ∈ ps, p.budget ≤ B ∧ Timed.HonoursCtx p.budget eps p.script p.ivals 0) :
    (getFrom i0 ps).elapsed ≤ ps.length * (B + eps) :=
  getFrom_elapsed_le_of i0 ps fun p hp =>
    Nat.le_trans (retry_honours_le p.script p.ivals 0 0 (h p hp).2 (Nat.zero_le _))
      (Nat.add_le_add_right (h p hp).1 eps)

/-- budgets derived from the caller's context never exceed the 2 s per-provider timeout -/
theorem withBudgets_budget_le (parent : Option Nat) (start : Nat) (scripts : List (List Attempt × List Nat)) :
    ∀ p ∈ withBudgets parent start scripts, p.budget ≤ callTimeout := by
  fun_induction withBudgets parent start scripts
  case case1 => nofun
  case case2 ih =>
    refine List.forall_mem_cons.mpr ⟨?_, ih⟩
    cases parent with
    | none => exact Nat.le_refl _
    | some D => exact Nat.min_le_left _ _

theorem callTimeout_le_maxElapsed : callTimeout ≤ maxElapsedTime := by decide

end TRV.Proofs.Enr
