import TRV.Proofs.Result
/-!
# C16 — Result document is self-consistent (exact arithmetic) and identifiers are distinct

`normalize draws d` is the model of `Results.Normalize()` (`draws` = the values `uuid.New`
returned), over exact rationals; the `float64`/`float32` rounding of the real code is enveloped by
the correspondence harness (`harness/corr/c16_test.go`), which is where finding F8 (ulp-level
`avg > max`) lives.

Hypotheses, all explicit:
* `FreshHops d` / `FreshE2e d.e2e` / `Fresh d` — the document is as `runTracerouteMulti` builds it
  (no derived field written yet).  `Normalize` never *clears* a field, so without this the
  statements are false (`c16_reachable_iff_addr_full_false`).
* `RunsNonempty d` — every run has at least one hop (C03).  Without it the `hopsMin == 0` idiom
  breaks `min ≤ avg` (`c16_hopcount_bounds_full_false`).
-/
namespace TRV.Props.C16
open TRV TRV.Result TRV.ResSpec TRV.Proofs.Result

/-- The Go expression `!hop.IPAddress.Equal(net.IP{})` is "the address field is not empty", for
    byte strings of every length (0, 4, 16 and the lengths that are not addresses at all). -/
theorem c16_equal_empty_ip (ip : Bytes) : hasAddrGo ip = true ↔ ip ≠ [] :=
  hasAddrGo_iff ip

/-- After `Normalize`, every hop of every run is reachable iff it has an address — for documents
    whose hops came from `ToHops` (`Reachable` not set beforehand). -/
theorem c16_reachable_iff_addr (draws : List Nat) (d : Doc) (hf : FreshHops d) :
    ReachableIffAddr (normalize draws d) :=
  reachableIffAddr_of_map (runsHops_normalize draws d) fun r hr h hh => by
    unfold HasAddr
    rw [normalizeHop_reachable, normalizeHop_ip, hf r hr h hh, Bool.false_or]
    exact hasAddrGo_iff _

/-- the same statement without the freshness hypothesis … -/
def c16_reachable_iff_addr_full : Prop := ∀ (draws : List Nat) (d : Doc), ReachableIffAddr (normalize draws d)

/-- … is false of the code: `Normalize` only ever sets `Reachable`, it never clears it.
    Go input: `Results{Traceroute:{Runs:[{Hops:[{TTL:1, Reachable:true}]}]}}`. -/
theorem c16_reachable_iff_addr_full_false : ¬ c16_reachable_iff_addr_full := by
  intro h
  have := h [] { runs := [{ hops := [{ ttl := 1, reachable := true }] }] }
  revert this; decide +kernel

/-- Hop-count statistics: for at least one run, every run having at least one hop,
    `1 ≤ min ≤ avg ≤ max ≤ longest run`. -/
theorem c16_hopcount_bounds (draws : List Nat) (d : Doc) (hne : d.runs ≠ []) (h1 : RunsNonempty d) :
    let o := normalize draws d
    1 ≤ o.hopCount.min ∧ (o.hopCount.min : Rat) ≤ o.hopCount.avg ∧
    o.hopCount.avg ≤ (o.hopCount.max : Rat) ∧ o.hopCount.max ≤ longestRun d.runs := by
  intro o
  have hm := runsHops_normalize draws d
  have hone : ∀ r ∈ o.runs, r.hops ≠ [] := fun r hr => by
    obtain ⟨r0, hr0, e⟩ := hops_of_map hm hr
    rw [e]; simpa using h1 r0 hr0
  rw [← longestRun_of_map hm]
  simp only [o, normalize_hopCount draws d hne]
  exact hopCount_stats _ (mt (runs_eq_nil_of_map hm).mp hne) hone

/-- the same statement without "every run has at least one hop" … -/
def c16_hopcount_bounds_full : Prop :=
  ∀ (draws : List Nat) (d : Doc), d.runs ≠ [] →
    let o := normalize draws d
    1 ≤ o.hopCount.min ∧ (o.hopCount.min : Rat) ≤ o.hopCount.avg ∧
    o.hopCount.avg ≤ (o.hopCount.max : Rat) ∧ o.hopCount.max ≤ longestRun d.runs

/-- … is false of the code: a run with zero hops has hop count 0, which the loop
    `if hopsCount < hopsMin || hopsMin == 0` then takes for "unset".  Runs with hop counts 0, 1 give
    min = 1 > avg = 1/2.  Go input: `Runs:[{Hops:nil},{Hops:[{TTL:1,IPAddress:1.1.1.1}]}]`. -/
theorem c16_hopcount_bounds_full_false : ¬ c16_hopcount_bounds_full := by
  intro h
  have := h [] { runs := [{ hops := [] }, { hops := [{ ttl := 1, ip := [1, 1, 1, 1] }] }] } (by simp)
  revert this; decide +kernel

/-- Packets: sent = number of samples, received = number of positive samples,
    loss = (sent − received)/sent (0 when there are no samples). -/
theorem c16_packets (draws : List Nat) (d : Doc) (hf : FreshE2e d.e2e) :
    PacketsOK (normalize draws d).e2e := by
  rw [normalize_e2e]; exact packets_fresh d.e2e hf

/-- RTT statistics: min ≤ avg ≤ max; when there is a positive sample, min and max are the least and
    greatest positive sample and avg is their arithmetic mean. -/
theorem c16_rtt_order (draws : List Nat) (d : Doc) (hf : FreshE2e d.e2e) :
    let e := (normalize draws d).e2e
    RttOrder e ∧ RttExtremes e ∧ RttMean e := by
  intro e
  simp only [e, normalize_e2e]
  unfold RttExtremes RttMean
  rw [nE_rtts]
  exact ⟨(rtt_jitter_fresh d.e2e hf).1, fun hp => (rtt_some d.e2e hp).2.1, fun hp => (rtt_some d.e2e hp).2.2.1⟩

/-- Jitter (mean absolute difference of consecutive positive samples): 0 ≤ jitter ≤ max − min. -/
theorem c16_jitter_bounds (draws : List Nat) (d : Doc) (hf : FreshE2e d.e2e) :
    JitterBounds (normalize draws d).e2e := by
  rw [normalize_e2e]; exact (rtt_jitter_fresh d.e2e hf).2

/-- The order-insensitive statistics do not depend on the order of the samples: for two documents
    whose sample lists are permutations of each other, sent, received, loss, min, avg and max agree.
    (Jitter is defined on consecutive samples and is excluded.) -/
theorem c16_perm_invariant (draws₁ draws₂ : List Nat) (d₁ d₂ : Doc)
    (hf₁ : FreshE2e d₁.e2e) (hf₂ : FreshE2e d₂.e2e) (p : d₁.e2e.rtts.Perm d₂.e2e.rtts) :
    let e₁ := (normalize draws₁ d₁).e2e
    let e₂ := (normalize draws₂ d₂).e2e
    e₁.sent = e₂.sent ∧ e₁.received = e₂.received ∧ e₁.loss = e₂.loss ∧
    e₁.min = e₂.min ∧ e₁.avg = e₂.avg ∧ e₁.max = e₂.max := by
  intro e₁ e₂
  simp only [e₁, e₂, normalize_e2e]
  exact perm_invariant d₁.e2e d₂.e2e p
    ⟨hf₁.sent.trans hf₂.sent.symm, hf₁.received.trans hf₂.received.symm, hf₁.loss.trans hf₂.loss.symm,
      hf₁.min.trans hf₂.min.symm, hf₁.avg.trans hf₂.avg.symm, hf₁.max.trans hf₂.max.symm⟩

/-- Identifiers: given distinct UUID draws (one per test and per run), the test id and all run ids
    of the normalised document are pairwise distinct.  (That `uuid.New` returns distinct values is
    an assumption; the harness checks it on every generated document.) -/
theorem c16_ids_distinct (draws : List Nat) (d : Doc) (hnd : draws.Nodup)
    (hlen : d.runs.length + 1 ≤ draws.length) : IdsDistinct (normalize draws d) := by
  unfold IdsDistinct
  match draws, hlen with
  | a :: tl, hlen =>
    have h2 : (normalize (a :: tl) d).runs.map (·.runId) = tl.take d.runs.length := by
      rw [normalize_runs]
      simp only [List.tail_cons, List.map_map, Function.comp_def]
      exact assignRunIds_ids d.runs tl (by simpa using hlen)
    rw [normalize_testRunId, h2]
    exact List.Nodup.sublist (List.Sublist.cons_cons a (List.take_sublist _ _)) hnd

/-- All clauses together: a fresh document whose runs all have at least one hop is `Consistent`
    after `Normalize` (0 runs and 0 samples included). -/
theorem c16_consistent (draws : List Nat) (d : Doc) (hf : Fresh d) (h1 : RunsNonempty d) :
    Consistent (normalize draws d) := by
  obtain ⟨fh, fc, fe⟩ := hf
  have hr := c16_rtt_order draws d fe
  refine ⟨c16_reachable_iff_addr draws d fh, ?_, ?_, c16_packets draws d fe, hr.1, hr.2.1,
    c16_jitter_bounds draws d fe⟩
  · by_cases hne : d.runs = []
    · unfold HopCountOrder
      rw [normalize_hopCount_empty draws d hne, fc]; decide
    · have := c16_hopcount_bounds draws d hne h1
      exact ⟨this.2.1, this.2.2.1⟩
  · intro hne'
    have := c16_hopcount_bounds draws d (mt (runs_eq_nil_of_map (runsHops_normalize draws d)).mpr hne') h1
    rw [normalize_longestRun]
    exact ⟨this.1, this.2.2.2⟩

/-! non-vacuity: a document with three runs (trailing empty hops, a v4-mapped and an IPv6 address,
    one run without any answering hop) and samples with losses, checked by evaluation -/

def exDoc : Doc :=
  { runs := [ { hops := [{ ttl := 1, ip := [10, 0, 0, 1], rtt := 3/2 }, { ttl := 2 },
                         { ttl := 3, ip := [8, 8, 8, 8], rtt := 7, isDest := true }] },
              { hops := [{ ttl := 1, ip := [0, 0, 0, 0, 0, 0, 0, 0, 0, 0, 0xff, 0xff, 10, 0, 0, 1] },
                         { ttl := 2, ip := [0x20, 1, 0xd, 0xb8, 0, 0, 0, 0, 0, 0, 0, 0, 0, 0, 0, 1] },
                         { ttl := 3 }, { ttl := 4 }] },
              { hops := [{ ttl := 1 }, { ttl := 2 }] } ],
    e2e := { rtts := [1/10, 0, 3/10, 1/10, 0, 2/10] } }

example : Fresh exDoc ∧ RunsNonempty exDoc := by decide +kernel
example : (normalize [1, 2, 3, 4] exDoc).hopCount = { avg := 7/3, min := 2, max := 3 } := by decide +kernel
example :
    let e := (normalize [1, 2, 3, 4] exDoc).e2e
    e.sent = 6 ∧ e.received = 4 ∧ e.loss = 1/3 ∧ e.min = 1/10 ∧ e.avg = 7/40 ∧ e.max = 3/10 ∧
    e.jitter = 1/6 := by decide +kernel
example : Consistent (normalize [1, 2, 3, 4] exDoc) ∧ IdsDistinct (normalize [1, 2, 3, 4] exDoc) := by
  decide +kernel
/-- exact arithmetic has no F8: the mean of 0.1, 0.1, 0.1 is 0.1 -/
example : (normalize [] { e2e := { rtts := [1/10, 1/10, 1/10] } }).e2e.avg = 1/10 := by decide +kernel

#print axioms c16_equal_empty_ip
#print axioms c16_reachable_iff_addr
#print axioms c16_reachable_iff_addr_full_false
#print axioms c16_hopcount_bounds
#print axioms c16_hopcount_bounds_full_false
#print axioms c16_packets
#print axioms c16_rtt_order
#print axioms c16_jitter_bounds
#print axioms c16_perm_invariant
#print axioms c16_ids_distinct
#print axioms c16_consistent
end TRV.Props.C16
