import TRV.Model.Drivers
import TRV.Generated.LogicIcmp
import TRV.Generated.LogicCommon
import TRV.Proofs.TieCommon
/-!
# Tie theorems: the ICMP matcher model equals the decision tree REGENERATED from `icmp/icmp_driver.go`

`TRV.Generated.LogicIcmp.handleProbeLayers.run` is the complete decision tree of
`icmpDriver.handleProbeLayers` as the translator reads it off the current source (every `if`, every
`switch` arm, every returned error kind and every field of the returned `ProbeResponse`, with Go's
integer semantics: `uint8(seq)` is `seq % 256`, `uint16(echo.ID)` is `% 65536`).  `atoms` reads the
uninterpreted sub-expressions off the MODEL's view of the packet (`TRV.Wire.parse`, `icmpInfo4/6`,
`parseEcho4`, `extractEcho6`, `icmpLookup`); `interp` maps what the tree returns to the model's
outcome classes (error kinds through the regenerated sentinel tables).  `tie_icmp_handle` proves that,
for every driver state and every parsed packet, the model's matcher IS the regenerated tree.
Together with `icmpRecv_eq_handle` this connects `TRV.Drv.icmpRecv` — the function all C01/C02/C04/C05/C09/C11
theorems about the ICMP variant speak about — to the source text.

Two conventions of `atoms`, here and in the UDP/TCP/SACK modules.  The atoms that carry the measured
RTT (`getRTTFromRelSeq(…).0`, `time.Since(…)`) are 0: no decision reads them and `interp` ignores
`"0.RTT"`, the model's outcome carries the send time of the credited record instead.  The layer tags
1/2/3 are arbitrary distinct numbers (the trees only compare them), not gopacket's `LayerType` values.
-/
namespace TRV.Props.TieIcmp
open TRV TRV.Wire TRV.Drv TRV.Logic TRV.Generated

/-- kind of an error value: sentinels are replaced by the kind of the value they are initialised with
    (tables regenerated from `icmp/` and `common/`) -/
def kindOf (k : String) : String :=
  match (LogicIcmp.sentinels ++ LogicCommon.sentinels.map (fun p => ("common." ++ p.1, "common." ++ p.2))).find? (·.1 = k) with
  | some p => p.2
  | none => k

/-- `CheckProbeRetryable` on a kind: bad-packet and no-packet errors are skipped, anything else is fatal -/
def retryableKind (k : String) : Bool := k = "common.BadPacketError" || k = "common.ReceiveProbeNoPktError"

/-- what the engines make of the values `handleProbeLayers` returned -/
def interp (s : IcmpSt) (src : Bytes) (r : R) : Out :=
  match r.get "1" with
  | some V.nil =>
    match r.get "0.TTL", r.get "0.IsDest", r.get "0.IP" with
    | some (V.int t), some (V.bool d), some (V.ref ip) =>
      if ip = "parser.GetIPPair().0.SrcAddr" then
        match s.find t.toNat with
        | some p => .accept t.toNat src d p.time
        | none => .fatal
      else .fatal
    | _, _, _ => .fatal
  | some (V.err k) => if retryableKind (kindOf k) then .retry else .fatal
  | _ => .fatal

/-- the part of `icmpRecv` after a successful `ReadAndParse` -/
def handle (s : IcmpSt) (l3 : L3) (l4 : L4) : Out :=
  match l4 with
  | .icmp4 i =>
    if i.type = 11 then
      match icmpInfo4 i with
      | none => .retry
      | some info =>
        if info.qdst ≠ s.cfg.target then .retry
        else if info.qsrc ≠ s.cfg.localA then .retry
        else if info.proto ≠ 1 then .retry
        else
          match parseEcho4 info.payload with
          | none => .retry
          | some (id, seq) =>
            if id ≠ s.cfg.echoId then .retry
            else match icmpLookup s seq with
              | none => .retry
              | some p => .accept seq l3.src false p.time
    else if i.type = 0 then
      if i.id ≠ s.cfg.echoId then .retry
      else if l3.src ≠ s.cfg.target then .retry
      else match icmpLookup s i.seq with
        | none => .retry
        | some p => .accept i.seq l3.src true p.time
    else .retry
  | .icmp6 i =>
    if i.type = 3 then
      match icmpInfo6 i with
      | none => .retry
      | some info =>
        if info.qdst ≠ s.cfg.target then .retry
        else if info.qsrc ≠ s.cfg.localA then .retry
        else if info.proto ≠ 58 then .retry
        else
          match extractEcho6 info.payload with
          | none => .retry
          | some (id, seq) =>
            if id ≠ s.cfg.echoId then .retry
            else match icmpLookup s seq with
              | none => .retry
              | some p => .accept seq l3.src false p.time
    else if i.type = 129 then
      match u16 i.payload 0, u16 i.payload 2 with
      | some id, some seq =>
        if id ≠ s.cfg.echoId then .retry
        else if l3.src ≠ s.cfg.target then .retry
        else match icmpLookup s seq with
          | none => .retry
          | some p => .accept seq l3.src true p.time
      | _, _ => .retry
    else .retry
  | .tcp _ => .retry

/-- `icmpRecv` = read check, parse, then `handle` -/
theorem icmpRecv_eq_handle (s : IcmpSt) (pkt : Bytes) :
    icmpRecv s pkt = if pkt.isEmpty then .fatal else
      match parse (pkt.take bufSize) with
      | none => .retry
      | some (l3, l4) => handle s l3 l4 := by
  unfold icmpRecv
  rcases parse (pkt.take bufSize) with _ | ⟨l3, _ | _ | _⟩ <;> rfl

/-- `Compare` of two addresses: 0 iff equal (only the zero test is used by the code) -/
def cmp (a b : Bytes) : Int := if a = b then 0 else 1

/-- quoted information of either family -/
def infoOf : L4 → Option ICMPInfo
  | .icmp4 i => icmpInfo4 i
  | .icmp6 i => icmpInfo6 i
  | .tcp _ => none

def dInfo : ICMPInfo := ⟨0, 0, [], [], []⟩

/-- the atoms of `handleProbeLayers`, read off the model's view of a parsed packet -/
def atoms (s : IcmpSt) (l3 : L3) (l4 : L4) : LogicIcmp.handleProbeLayers.Atoms :=
  let info := (infoOf l4).getD dInfo
  let e4 := (parseEcho4 info.payload).getD (0, 0)
  let e6 := (extractEcho6 info.payload).getD (0, 0)
  let i4 : ICMP4 := match l4 with | .icmp4 i => i | _ => ⟨0, 0, 0, 0, []⟩
  let i6 : ICMP6 := match l4 with | .icmp6 i => i | _ => ⟨0, 0, []⟩
  let r2 := (u16 i6.payload 2).getD 0
  { «parser.GetIPPair().1 == nil» := true
    «parser.GetTransportLayer()» := match l4 with | .icmp4 _ => 1 | .icmp6 _ => 2 | .tcp _ => 3
    «layers.LayerTypeICMPv4» := 1
    «layers.LayerTypeICMPv6» := 2
    «parser.ICMP4.TypeCode.Type()» := i4.type
    «parser.GetICMPInfo().1 == nil» := (infoOf l4).isSome
    «parser.GetICMPInfo().0.ICMPPair.DstAddr.Compare(s.params.Target)» := cmp info.qdst s.cfg.target
    «parser.GetICMPInfo().0.ICMPPair.SrcAddr.Compare(s.localAddr)» := cmp info.qsrc s.cfg.localA
    «parser.GetICMPInfo().0.WrappedProtocol» := info.proto
    «icmp.ParseMessage(ipv4.ICMPTypeEcho.Protocol(), parser.GetICMPInfo().0.Payload).1 == nil» := (parseEcho4 info.payload).isSome
    «icmp.ParseMessage(ipv4.ICMPTypeEcho.Protocol(), parser.GetICMPInfo().0.Payload).0.Body.(*icmp.Echo).1» := true
    «icmp.ParseMessage(ipv4.ICMPTypeEcho.Protocol(), parser.GetICMPInfo().0.Payload).0.Body.(*icmp.Echo).0.ID» := (e4.1 : Int)
    «s.echoID» := s.cfg.echoId
    «s.getRTTFromRelSeq(uint16(icmp.ParseMessage(ipv4.ICMPTypeEcho.Protocol(), parser.GetICMPInfo().0.Payload).0.Body.(*icmp.Echo).0.Seq)).0» := 0
    «s.getRTTFromRelSeq(uint16(icmp.ParseMessage(ipv4.ICMPTypeEcho.Protocol(), parser.GetICMPInfo().0.Payload).0.Body.(*icmp.Echo).0.Seq)).1 == nil» := (icmpLookup s e4.2).isSome
    «icmp.ParseMessage(ipv4.ICMPTypeEcho.Protocol(), parser.GetICMPInfo().0.Payload).0.Body.(*icmp.Echo).0.Seq» := (e4.2 : Int)
    «parser.ICMP4.Id» := i4.id
    «parser.GetIPPair().0.SrcAddr.Compare(s.params.Target)» := cmp l3.src s.cfg.target
    «s.getRTTFromRelSeq(parser.ICMP4.Seq).0» := 0
    «s.getRTTFromRelSeq(parser.ICMP4.Seq).1 == nil» := (icmpLookup s i4.seq).isSome
    «parser.ICMP4.Seq» := i4.seq
    «parser.ICMP6.TypeCode.Type()» := i6.type
    «extractEchoRequest(parser.GetICMPInfo().0).1 == nil» := (extractEcho6 info.payload).isSome
    «extractEchoRequest(parser.GetICMPInfo().0).0.Identifier» := e6.1
    «s.getRTTFromRelSeq(extractEchoRequest(parser.GetICMPInfo().0).0.SeqNumber).0» := 0
    «s.getRTTFromRelSeq(extractEchoRequest(parser.GetICMPInfo().0).0.SeqNumber).1 == nil» := (icmpLookup s e6.2).isSome
    «extractEchoRequest(parser.GetICMPInfo().0).0.SeqNumber» := e6.2
    «parser.ICMP6.Payload» := i6.payload
    «s.getRTTFromRelSeq(binary.BigEndian.Uint16(parser.ICMP6.Payload[2:4])).0» := 0
    «s.getRTTFromRelSeq(binary.BigEndian.Uint16(parser.ICMP6.Payload[2:4])).1 == nil» := (icmpLookup s r2).isSome }

section
open TRV.Proofs.TieCommon

theorem kind_bad : retryable (kindIn (LogicIcmp.sentinels ++ commonTable) "common.BadPacketError") = true :=
  retryable_common (by simp [LogicIcmp.sentinels]) retryable_bad

theorem kind_nomatch :
    retryable (kindIn (LogicIcmp.sentinels ++ commonTable) "common.ErrPacketDidNotMatchTraceroute") = true :=
  retryable_common (by simp [LogicIcmp.sentinels]) retryable_nomatch

theorem kind_nomatch_local :
    retryable (kindIn (LogicIcmp.sentinels ++ commonTable) "errPacketDidNotMatchTraceroute") = true :=
  retryable_local (n := "errPacketDidNotMatchTraceroute") (by simp [LogicIcmp.sentinels])

/-- where this module's `kindOf` / `retryableKind` meet the shared `kindIn` / `retryable`: for a variable
    kind, so that `rfl` compares the definitions and evaluates no string -/
theorem interp_err (s : IcmpSt) (src : Bytes) (e : List String) (k : String) :
    interp s src ⟨e, [("0", V.nil), ("1", V.err k)]⟩
      = if retryable (kindIn (LogicIcmp.sentinels ++ commonTable) k) then .retry else .fatal := by
  simp only [interp, get_pair]
  rfl

end

theorem interp_ok (s : IcmpSt) (src : Bytes) (e : List String) (t rtt : Int) (d : Bool) :
    interp s src ⟨e, [("0", V.ref "new common.ProbeResponse"), ("0.TTL", V.int t), ("0.IP", V.ref "parser.GetIPPair().0.SrcAddr"),
      ("0.RTT", V.int rtt), ("0.IsDest", V.bool d), ("1", V.nil)]⟩
      = match s.find t.toNat with
        | some p => .accept t.toNat src d p.time
        | none => .fatal := by
  simp [interp, Proofs.TieCommon.get_ok]

/-- the tail common to every accepting branch: look the sequence number up, return the record -/
theorem finish (s : IcmpSt) (src : Bytes) (d : Bool) (seq : Nat) (X : Int) (hX : seq ≤ 255 → X = (seq : Int)) :
    interp s src (if icmpLookup s seq = none then ⟨[], [("0", V.nil), ("1", V.err "common.BadPacketError")]⟩
      else ⟨[], [("0", V.ref "new common.ProbeResponse"), ("0.TTL", V.int X), ("0.IP", V.ref "parser.GetIPPair().0.SrcAddr"),
                 ("0.RTT", V.int 0), ("0.IsDest", V.bool d), ("1", V.nil)]⟩)
      = match icmpLookup s seq with
        | none => .retry
        | some p => .accept seq src d p.time := by
  cases h : icmpLookup s seq with
  | none => simp [interp_err, kind_bad]
  | some p =>
    obtain ⟨h255, _, _, hf⟩ := Proofs.icmpLookup_some h
    simp [interp_ok, hX h255, hf]

/- The tree is unfolded and the atoms are put in once.  Then the model's own case analysis is followed:
   where an arm of `handle` is entered, `simp only` with the deciding facts cuts tree and model down to that
   arm (so that the evaluations below do not walk the whole tree), and at every leaf of the model the facts
   collected on the way decide each test of the tree up to its leaf. -/
attribute [local simp] interp_err kind_bad kind_nomatch kind_nomatch_local infoOf cmp Int.toNat_emod in
/-- for every driver state and every parsed packet, the model's ICMP matcher is the decision tree
    regenerated from `icmpDriver.handleProbeLayers` -/
theorem tie_icmp_handle (s : IcmpSt) (l3 : L3) (l4 : L4) :
    interp s l3.src (LogicIcmp.handleProbeLayers.run (atoms s l3 l4)) = handle s l3 l4 := by
  unfold LogicIcmp.handleProbeLayers.run
  dsimp only [atoms]
  cases l4 with
  | tcp t => simp [handle]
  | icmp4 i =>
    by_cases h11 : i.type = 11
    · simp only [handle, h11, beq_iff_eq, Bool.not_true, Bool.false_eq_true, ↓reduceIte]
      rcases hi : icmpInfo4 i with _ | info
      · simp [*]
      · by_cases hd : info.qdst = s.cfg.target
        · by_cases hs : info.qsrc = s.cfg.localA
          · by_cases hp : info.proto = 1
            · rcases he : parseEcho4 info.payload with _ | ⟨id, seq⟩
              · simp [*]
              · have hid : id % 65536 = id :=
                  let ⟨_, _, h, _⟩ := Proofs.parseEcho4_some he; Nat.mod_eq_of_lt (u16_lt h)
                by_cases hq : id = s.cfg.echoId
                · subst hq
                  simp [*]
                  exact finish s l3.src false seq _ Proofs.TieCommon.low8
                · simp [*]
            · simp [*]
          · simp [*]
        · simp [*]
    · by_cases h0 : i.type = 0
      · simp only [handle, h0, beq_iff_eq, Nat.reduceEqDiff, Bool.not_true, Bool.false_eq_true, ↓reduceIte]
        by_cases hq : i.id = s.cfg.echoId
        · by_cases ht : l3.src = s.cfg.target
          · simp [*]
            exact finish s _ true i.seq _ Proofs.TieCommon.low8
          · simp [*]
        · simp [*]
      · simp [handle, *]
  | icmp6 i =>
    by_cases h3 : i.type = 3
    · simp only [handle, h3, beq_iff_eq, Int.reduceEq, Bool.not_true, Bool.false_eq_true, ↓reduceIte]
      rcases hi : icmpInfo6 i with _ | info
      · simp [*]
      · by_cases hd : info.qdst = s.cfg.target
        · by_cases hs : info.qsrc = s.cfg.localA
          · by_cases hp : info.proto = 58
            · rcases he : extractEcho6 info.payload with _ | ⟨id, seq⟩
              · simp [*]
              · by_cases hq : id = s.cfg.echoId
                · simp [*]
                  exact finish s l3.src false seq _ Proofs.TieCommon.low8
                · simp [*]
            · simp [*]
          · simp [*]
        · simp [*]
    · by_cases h129 : i.type = 129
      · simp only [handle, h129, beq_iff_eq, Int.reduceEq, Nat.reduceEqDiff, Bool.not_true, Bool.false_eq_true, ↓reduceIte]
        -- the payload is read at offsets 0 and 2: both reads succeed exactly when 4 octets are present
        by_cases hl : i.payload.length < 4
        · have h2 : u16 i.payload 2 = none := TRV.u16_none (by omega)
          have hl : ((i.payload.length : Nat) : Int) < 4 := by omega
          rcases u16 i.payload 0 with _ | id <;> simp [*]
        · obtain ⟨id, h0⟩ := TRV.u16_of_lt (b := i.payload) (off := 0) (by omega)
          obtain ⟨seq, h2⟩ := TRV.u16_of_lt (b := i.payload) (off := 2) (by omega)
          have e0 : Logic.be (i.payload.take 2) 2 = id := Proofs.BeNat.be16_of_u16 h0
          have e2 := Proofs.BeNat.be16_of_u16 h2
          have hl : ¬ ((i.payload.length : Nat) : Int) < 4 := by omega
          by_cases hq : id = s.cfg.echoId
          · by_cases ht : l3.src = s.cfg.target
            · simp [*]
              exact finish s _ true seq _ Proofs.TieCommon.low8
            · simp [*]
          · simp [*]
      · simp [handle, *]

#print axioms kind_bad
#print axioms kind_nomatch
#print axioms kind_nomatch_local
#print axioms interp_err
#print axioms interp_ok
#print axioms u8_lt
#print axioms u16_lt
#print axioms finish
#print axioms icmpRecv_eq_handle
#print axioms tie_icmp_handle

end TRV.Props.TieIcmp
