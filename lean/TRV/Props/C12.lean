import TRV.Proofs.Bpf
import TRV.Proofs.Bytes
import TRV.Spec.Filters
import TRV.Generated.Filters
/-!
# C12 — Capture filters never hide a matchable reply and are exact on the tuple

Every theorem is about the
programs in `TRV.Generated.Filters`, which `harness/extract` re-dumps from the compiled `packets`
package on every check run: a changed opcode, jump offset or constant in `packets/cbpf_filters.go`
or `packets/tcp_filter.go` changes those definitions and the proofs below are re-checked against
them.

Scope of the statements: **every frame of every length** (`Bytes` is an arbitrary list of bytes) and
**every configuration** (`srcAddr dstAddr srcPort dstPort` range over all naturals; a value that
does not fit the field can never match, in the program and in the reference predicate alike).

"Unfragmented" is what tcpdump's code tests and what `TRV.Spec.Filters.fragOffsetZero` says:
fragment offset = 0.  The MF bit is not looked at, so a first fragment (offset 0, MF set) passes
the TCP-tuple and SYN-ACK filters; fragments with offset ≠ 0 never pass as TCP.

Superset direction.  The matcher/driver models are not part of this module, so "every frame the
matcher would turn into a hop or handshake" is stated here through the frame fields such a frame
must have: the `c12_*_covers*` theorems take as hypotheses the field values a matcher checks before
it produces a hop (IPv4 + ICMP; IPv4 + TCP + offset 0 + the configured tuple; SYN and ACK set;
ICMPv6 directly or after a fragment header), on the raw frame and — `…_ip` variants — on the IP
packet behind a 14-byte Ethernet header, which is the shape the matcher models work on.  The
theorems that compose these with the driver models (`xRecv s pkt = .accept … → accepts … = true`) are
in `TRV.Props.C12Compose`.  `c12_sites_cover` shows that the filter each variant installs (table extracted from the source)
passes what that variant needs; `c12_sites_config` (module `TRV.Props.TieFilterSites`, a textual pin
with TIE-DRIFT semantics) pins the direction of the configured tuple.
-/
namespace TRV.Props.C12
open TRV TRV.Bpf TRV.Spec.Filters TRV.Generated.Filters TRV.Proofs.Bpf

/-- The TCP-tuple filter (`FilterTypeTCP`, `GenerateTCP4Filter`) accepts exactly: IPv4 frames whose
    protocol is ICMP, and IPv4 TCP frames at fragment offset 0 whose source address, destination
    address, source port and destination port are the configured ones.  In particular a frame too
    short to contain a field it would have to match is rejected. -/
theorem c12_tcp_exact (srcAddr dstAddr srcPort dstPort : Nat) (f : Bytes) :
    accepts (tcpTuple srcAddr dstAddr srcPort dstPort) f = tupleSpec srcAddr dstAddr srcPort dstPort f := by
  simp only [accepts, tcpTuple, exec_cons, List.drop_succ_cons, List.drop_zero, load_one, load_two,
    load_four, and_1fff, off14, off16]
  unfold tupleSpec isIPv4 ipProto ipSrc ipDst fragOffsetZero tcpSrcPort tcpDstPort l4Offset
  -- a field that is missing makes both sides false; the fields in the order the program loads them
  rcases u16 f 12 with _ | et
  · rfl
  rcases u8 f 23 with _ | pr
  · simp
  rcases u32 f 26 with _ | src
  · simp
  rcases u32 f 30 with _ | dst
  · simp
  rcases u16 f 20 with _ | fr
  · simp
  rcases u8 f 14 with _ | b
  · simp
  simp only [Option.map_some, Option.bind_some]
  rcases u16 f (14 + 4 * (b % 16)) with _ | sp
  · simp
  rcases u16 f (14 + 4 * (b % 16) + 2) with _ | dp
  · simp
  -- with every field present the decision tree and the predicate are the same Boolean formula
  simp [Bool.and_assoc, bne]

/-- The SYN-ACK filter (`FilterTypeSYNACK`) accepts exactly IPv4 TCP frames at fragment offset 0
    whose TCP flag byte (at `14 + 4·IHL + 13`) has both SYN and ACK set (other flags arbitrary). -/
theorem c12_synack_exact (f : Bytes) : accepts synack f = synackSpec f := by
  simp only [accepts, synack, exec_cons, List.drop_succ_cons, List.drop_zero, load_one, load_two,
    and_1fff, and_two_pow_bne_zero _ 1, and_two_pow_bne_zero _ 4, off27]  -- SYN (bit 1), ACK (bit 4)
  unfold synackSpec isIPv4 ipProto fragOffsetZero tcpFlags l4Offset
  rcases u16 f 12 with _ | et
  · rfl
  rcases u8 f 23 with _ | pr
  · simp
  rcases u16 f 20 with _ | fr
  · simp
  rcases u8 f 14 with _ | b
  · simp
  simp only [Option.map_some, Option.bind_some]
  rcases u8 f (14 + 4 * (b % 16) + 13) with _ | fl
  · simp
  simp [Bool.and_assoc, bne]

/-- The ICMP filter (`FilterTypeICMP`) accepts exactly ICMPv4 (IPv4, protocol 1 — fragments included,
    the program does not look at the fragment word) and ICMPv6 (IPv6 with next header 58, or next
    header 44 and the fragment header's next header 58). -/
theorem c12_icmp_exact (f : Bytes) : accepts icmp f = icmpSpec f := by
  simp only [accepts, icmp, exec_cons, List.drop_succ_cons, List.drop_zero, load_one, load_two]
  unfold icmpSpec isICMPv6 isIPv4 isIPv6 ipProto ip6Next ip6FragNext
  rcases u16 f 12 with _ | et
  · rfl
  -- the IPv4 arm and the arm that tests for IPv6 load different fields
  cases v4 : et == 0x800
  · rcases u8 f 20 with _ | nh
    · simp [v4]
    rcases u8 f 54 with _ | fn <;> simp [v4]
  · obtain rfl := eq_of_beq v4
    rcases u8 f 23 with _ | pr <;> simp

/-- The UDP filter (`FilterTypeUDP`; installed by no variant at present, see `filterSites`) accepts
    exactly what the ICMP filter accepts plus UDP over IPv4 or IPv6 (directly or after a fragment
    header). -/
theorem c12_udp_exact (f : Bytes) : accepts udp f = udpSpec f := by
  simp only [accepts, udp, exec_cons, List.drop_succ_cons, List.drop_zero, load_one, load_two]
  unfold udpSpec icmpSpec isUDP isICMPv6 isIPv4 isIPv6 ipProto ip6Next ip6FragNext
  rcases u16 f 12 with _ | et
  · rfl
  cases v4 : et == 0x800
  · rcases u8 f 20 with _ | nh
    · simp [v4]
    -- only behind a fragment header is the field at 54 looked at
    cases frag : nh == 44
    · simp [v4, frag, Bool.and_or_distrib_left]
    · obtain rfl := eq_of_beq frag
      rcases u8 f 54 with _ | fn <;> simp [v4, Bool.and_or_distrib_left]
  · obtain rfl := eq_of_beq v4
    rcases u8 f 23 with _ | pr <;> simp

/-- The drop-all filter (installed while the socket is drained) accepts nothing. -/
theorem c12_dropall (f : Bytes) : accepts dropAll f = false := by
  simp [accepts, dropAll, exec_cons]

/-- TCP-tuple filter, TCP part: an IPv4 TCP frame at fragment offset 0 (MF may be set) whose
    addresses and ports are the configured ones is accepted, whatever its IHL, flags or length
    beyond the ports. -/
theorem c12_tuple_covers (srcAddr dstAddr srcPort dstPort : Nat) (f : Bytes) (b0 fr : Nat)
    (hv4 : u16 f 12 = some 0x0800) (hproto : u8 f 23 = some 6)
    (hfr : u16 f 20 = some fr) (hoff : fr % 8192 = 0)
    (hsrc : u32 f 26 = some srcAddr) (hdst : u32 f 30 = some dstAddr)
    (hb0 : u8 f 14 = some b0)
    (hsp : u16 f (14 + 4 * (b0 % 16)) = some srcPort)
    (hdp : u16 f (14 + 4 * (b0 % 16) + 2) = some dstPort) :
    accepts (tcpTuple srcAddr dstAddr srcPort dstPort) f = true := by
  rw [c12_tcp_exact]
  simp [tupleSpec, isIPv4, ipProto, ipSrc, ipDst, fragOffsetZero, tcpSrcPort, tcpDstPort, l4Offset,
    hv4, hproto, hfr, hoff, hsrc, hdst, hb0, hsp, hdp]

/-- TCP-tuple filter, ICMP part: every IPv4 ICMP frame is accepted (any type, any addresses,
    fragmented or not), for every configuration. -/
theorem c12_tuple_covers_icmp (srcAddr dstAddr srcPort dstPort : Nat) (f : Bytes)
    (hv4 : u16 f 12 = some 0x0800) (hproto : u8 f 23 = some 1) :
    accepts (tcpTuple srcAddr dstAddr srcPort dstPort) f = true := by
  rw [c12_tcp_exact]
  simp [tupleSpec, isIPv4, ipProto, hv4, hproto]

/-- SYN-ACK filter: every IPv4 TCP frame at fragment offset 0 with SYN and ACK set is accepted
    (this is the frame the SACK handshake reader waits for), whatever the addresses and ports. -/
theorem c12_synack_covers_handshake (f : Bytes) (b0 fr fl : Nat)
    (hv4 : u16 f 12 = some 0x0800) (hproto : u8 f 23 = some 6)
    (hfr : u16 f 20 = some fr) (hoff : fr % 8192 = 0)
    (hb0 : u8 f 14 = some b0)
    (hfl : u8 f (14 + 4 * (b0 % 16) + 13) = some fl)
    (hsyn : fl.testBit 1 = true) (hack : fl.testBit 4 = true) :
    accepts synack f = true := by
  rw [c12_synack_exact]
  simp [synackSpec, isIPv4, ipProto, fragOffsetZero, tcpFlags, l4Offset, hv4, hproto, hfr, hoff, hb0, hfl,
    hsyn, hack]

/-- ICMP filter: every ICMPv4 frame and every ICMPv6 frame (next header 58 directly, or behind one
    fragment header) is accepted. -/
theorem c12_icmp_covers (f : Bytes)
    (h : (u16 f 12 = some 0x0800 ∧ u8 f 23 = some 1) ∨
         (u16 f 12 = some 0x86dd ∧ u8 f 20 = some 58) ∨
         (u16 f 12 = some 0x86dd ∧ u8 f 20 = some 44 ∧ u8 f 54 = some 58)) :
    accepts icmp f = true := by
  rw [c12_icmp_exact]
  rcases h with ⟨a, b⟩ | ⟨a, b⟩ | ⟨a, b, c⟩ <;>
    simp [icmpSpec, isICMPv6, isIPv4, isIPv6, ipProto, ip6Next, ip6FragNext, *]

/-- Every filter a probing phase installs (all kinds but the handshake-only SYN-ACK filter, and also
    the unused UDP filter) passes every IPv4 ICMP frame — the frames TTL-exceeded /
    destination-unreachable hops are made from. -/
theorem c12_probe_filters_pass_icmp4 (k : FilterKind) (hk : k ≠ .synack)
    (srcAddr dstAddr srcPort dstPort : Nat) (p : List Instr)
    (hp : programFor k srcAddr dstAddr srcPort dstPort = some p) (f : Bytes)
    (hv4 : u16 f 12 = some 0x0800) (hproto : u8 f 23 = some 1) : accepts p f = true := by
  cases k <;> simp [programFor] at hp hk <;> subst hp
  · exact c12_icmp_covers f (Or.inl ⟨hv4, hproto⟩)
  · rw [c12_udp_exact]; simp [udpSpec, icmpSpec, isIPv4, ipProto, hv4, hproto]
  · exact c12_tuple_covers_icmp _ _ _ _ f hv4 hproto

/-- `c12_tuple_covers` for `eth ++ ip`: Ethernet header of 14 bytes with EtherType IPv4, and an IP
    packet whose own fields (RFC 791 offsets: IHL byte 0, fragment word 6, protocol 9, source 12,
    destination 16, TCP ports at `4·IHL` and `4·IHL + 2`) are the configured tuple. -/
theorem c12_tuple_covers_ip (srcAddr dstAddr srcPort dstPort : Nat) (eth ip : Bytes) (b0 fr : Nat)
    (hlen : eth.length = 14) (het : u16 eth 12 = some 0x0800)
    (hb0 : u8 ip 0 = some b0) (hfr : u16 ip 6 = some fr) (hoff : fr % 8192 = 0)
    (hproto : u8 ip 9 = some 6) (hsrc : u32 ip 12 = some srcAddr) (hdst : u32 ip 16 = some dstAddr)
    (hsp : u16 ip (4 * (b0 % 16)) = some srcPort) (hdp : u16 ip (4 * (b0 % 16) + 2) = some dstPort) :
    accepts (tcpTuple srcAddr dstAddr srcPort dstPort) (eth ++ ip) = true :=
  c12_tuple_covers srcAddr dstAddr srcPort dstPort (eth ++ ip) b0 fr
    ((Proofs.u16_append_left (by omega)).trans het) ((Proofs.u8_append_right (off := 9) hlen).trans hproto)
    ((Proofs.u16_append_right (off := 6) hlen).trans hfr) hoff
    ((Proofs.u32_append_right (off := 12) hlen).trans hsrc) ((Proofs.u32_append_right (off := 16) hlen).trans hdst)
    ((Proofs.u8_append_right (off := 0) hlen).trans hb0) ((Proofs.u16_append_right hlen).trans hsp)
    (Nat.add_assoc .. ▸ (Proofs.u16_append_right hlen).trans hdp)

/-- `c12_tuple_covers_icmp` for `eth ++ ip` -/
theorem c12_tuple_covers_icmp_ip (srcAddr dstAddr srcPort dstPort : Nat) (eth ip : Bytes)
    (hlen : eth.length = 14) (het : u16 eth 12 = some 0x0800) (hproto : u8 ip 9 = some 1) :
    accepts (tcpTuple srcAddr dstAddr srcPort dstPort) (eth ++ ip) = true :=
  c12_tuple_covers_icmp _ _ _ _ _ ((Proofs.u16_append_left (by omega)).trans het)
    ((Proofs.u8_append_right (off := 9) hlen).trans hproto)

/-- `c12_synack_covers_handshake` for `eth ++ ip` (flag byte at `4·IHL + 13` of the IP packet) -/
theorem c12_synack_covers_handshake_ip (eth ip : Bytes) (b0 fr fl : Nat)
    (hlen : eth.length = 14) (het : u16 eth 12 = some 0x0800)
    (hb0 : u8 ip 0 = some b0) (hfr : u16 ip 6 = some fr) (hoff : fr % 8192 = 0)
    (hproto : u8 ip 9 = some 6)
    (hfl : u8 ip (4 * (b0 % 16) + 13) = some fl)
    (hsyn : fl.testBit 1 = true) (hack : fl.testBit 4 = true) :
    accepts synack (eth ++ ip) = true :=
  c12_synack_covers_handshake (eth ++ ip) b0 fr fl
    ((Proofs.u16_append_left (by omega)).trans het) ((Proofs.u8_append_right (off := 9) hlen).trans hproto)
    ((Proofs.u16_append_right (off := 6) hlen).trans hfr) hoff ((Proofs.u8_append_right (off := 0) hlen).trans hb0)
    (Nat.add_assoc .. ▸ (Proofs.u8_append_right hlen).trans hfl) hsyn hack

/-- `c12_icmp_covers` for `eth ++ ip`: IPv4 with protocol 1 (byte 9), or IPv6 with next header 58
    (byte 6), or next header 44 and the fragment header's next header (byte 40) 58. -/
theorem c12_icmp_covers_ip (eth ip : Bytes) (hlen : eth.length = 14)
    (h : (u16 eth 12 = some 0x0800 ∧ u8 ip 9 = some 1) ∨
         (u16 eth 12 = some 0x86dd ∧ u8 ip 6 = some 58) ∨
         (u16 eth 12 = some 0x86dd ∧ u8 ip 6 = some 44 ∧ u8 ip 40 = some 58)) :
    accepts icmp (eth ++ ip) = true := by
  apply c12_icmp_covers
  rw [Proofs.u16_append_left (by omega), show u8 (eth ++ ip) 23 = u8 ip 9 from Proofs.u8_append_right (off := 9) hlen,
    show u8 (eth ++ ip) 20 = u8 ip 6 from Proofs.u8_append_right (off := 6) hlen,
    show u8 (eth ++ ip) 54 = u8 ip 40 from Proofs.u8_append_right (off := 40) hlen]
  exact h

/-- Does installing a filter of kind `s.kind` at a site satisfy the need `n`?  `none` = no program is
    attached (every frame passes).  The tuple filter only counts when both ends are configured at the
    site.  Justified by `c12_sites_cover` below, not trusted. -/
def sufficesFor (s : Site) (n : Need) : Bool :=
  match s.kind, n with
  | .none, _ => true
  | .icmp, .icmpAny => true
  | .udp, .icmpAny => true
  | .synack, .synackFromTarget => true
  | .tcp, .synackFromTarget => s.src != "" && s.dst != ""
  | .tcp, .tuple => s.src != "" && s.dst != ""
  | _, _ => false

/-- Every filter installation site of the four variants (extracted from the source into
    `filterSites`) installs a filter that passes every frame that phase of the variant needs
    (`siteNeeds` / `needSpec`: ICMPv4+ICMPv6 for ICMP and UDP traceroute, the handshake SYN-ACK for
    the first SACK phase, IPv4 ICMP + the reply tuple for TCP and the SACK probing phase) — for all
    frames and all configurations.  The list of sites and the list of phases correspond one to one.
    Holds for any sufficient choice of filter (e.g. it would still hold if UDP traceroute installed
    the UDP filter) and fails if a site installs a filter that can hide a needed frame. -/
theorem c12_sites_cover :
    filterSites.map (·.file) = siteNeeds.map (·.1) ∧
    ∀ s n, (s, n) ∈ filterSites.zip (siteNeeds.map (·.2)) →
      ∀ (srcAddr dstAddr srcPort dstPort : Nat) (p : List Instr),
        programFor s.kind srcAddr dstAddr srcPort dstPort = some p →
        ∀ f, needSpec n srcAddr dstAddr srcPort dstPort f = true → accepts p f = true := by
  refine ⟨rfl, ?_⟩
  have hall : (filterSites.zip (siteNeeds.map (·.2))).all (fun sn => sufficesFor sn.1 sn.2) = true := by
    decide
  intro s n hmem sa da sp dp p hp f hneed
  have hs : sufficesFor s n = true := (List.all_eq_true.mp hall) (s, n) hmem
  unfold sufficesFor at hs
  cases hk : s.kind <;> cases n <;> simp [hk] at hs <;> simp [hk, programFor] at hp <;> subst hp <;>
    simp only [needSpec, Bool.and_eq_true] at hneed
  · rw [c12_icmp_exact]; exact hneed
  · rw [c12_udp_exact]; simp [udpSpec, hneed]
  · rw [c12_tcp_exact]; exact hneed.2
  · rw [c12_tcp_exact]; exact hneed
  · rw [c12_synack_exact]; exact hneed.1

/-! non-vacuity: the filters on hand-built frames — an IPv4 header with an option word, first and later
    fragments, a frame cut inside the ports, ICMPv6 behind a fragment header -/

section Examples
/-- Ethernet header with the given EtherType -/
private def eth (et : Nat) : Bytes := (List.replicate 12 (byte 0xaa)) ++ be16 et

/-- IPv4 header with IHL 6 (one option word), given fragment word and protocol,
    203.0.113.9 → 192.0.2.200 -/
private def ip4 (frag proto : Nat) : Bytes :=
  [byte 0x46, byte 0] ++ be16 48 ++ be16 0x1234 ++ be16 frag ++ [byte 57, byte proto] ++ be16 0 ++
    be32 0xcb007109 ++ be32 0xc00002c8 ++ [byte 1, byte 1, byte 1, byte 0]

/-- TCP header 443 → 33434 with the given flag byte -/
private def tcp (flags : Nat) : Bytes :=
  be16 443 ++ be16 33434 ++ be32 7 ++ be32 8 ++ [byte 0x50, byte flags] ++ be16 1024 ++ be16 0 ++ be16 0

/-- a SYN-ACK reply with an IP option, first fragment (MF set): accepted by the tuple filter for its
    tuple and by the SYN-ACK filter -/
example : accepts (tcpTuple 0xcb007109 0xc00002c8 443 33434) (eth 0x0800 ++ ip4 0x2000 6 ++ tcp 0x12) = true := by
  rw [c12_tcp_exact]; decide
example : accepts synack (eth 0x0800 ++ ip4 0x2000 6 ++ tcp 0x12) = true := by
  rw [c12_synack_exact]; decide
/-- … rejected when one port byte differs, when it is a later fragment, when it is cut inside the
    destination port, and (SYN-ACK filter) when ACK is missing -/
example : accepts (tcpTuple 0xcb007109 0xc00002c8 443 33435) (eth 0x0800 ++ ip4 0 6 ++ tcp 0x12) = false := by
  rw [c12_tcp_exact]; decide
example : accepts (tcpTuple 0xcb007109 0xc00002c8 443 33434) (eth 0x0800 ++ ip4 0x0001 6 ++ tcp 0x12) = false := by
  rw [c12_tcp_exact]; decide
example : accepts (tcpTuple 0xcb007109 0xc00002c8 443 33434) ((eth 0x0800 ++ ip4 0 6 ++ tcp 0x12).take 41) = false := by
  rw [c12_tcp_exact]; decide
example : accepts synack (eth 0x0800 ++ ip4 0 6 ++ tcp 0x02) = false := by
  rw [c12_synack_exact]; decide
/-- ICMPv4 passes the tuple filter and the ICMP filter; ICMPv6 behind a fragment header passes the
    ICMP filter; TCP does not pass the ICMP filter -/
example : accepts (tcpTuple 1 2 3 4) (eth 0x0800 ++ ip4 0 1 ++ [byte 11, byte 0]) = true := by
  rw [c12_tcp_exact]; decide
example : accepts icmp (eth 0x0800 ++ ip4 0x2001 1) = true := by
  rw [c12_icmp_exact]; decide
example : accepts icmp (eth 0x86dd ++ [byte 0x60, byte 0, byte 0, byte 0] ++ be16 16 ++ [byte 44, byte 64] ++
    List.replicate 32 (byte 0xfe) ++ [byte 58, byte 0] ++ be16 0 ++ be32 9 ++ [byte 3, byte 0]) = true := by
  rw [c12_icmp_exact]; decide
example : accepts icmp (eth 0x0800 ++ ip4 0 6 ++ tcp 0x12) = false := by
  rw [c12_icmp_exact]; decide
end Examples

#print axioms c12_tcp_exact
#print axioms c12_synack_exact
#print axioms c12_icmp_exact
#print axioms c12_udp_exact
#print axioms c12_dropall
#print axioms c12_tuple_covers
#print axioms c12_tuple_covers_icmp
#print axioms c12_synack_covers_handshake
#print axioms c12_icmp_covers
#print axioms c12_probe_filters_pass_icmp4
#print axioms c12_tuple_covers_ip
#print axioms c12_tuple_covers_icmp_ip
#print axioms c12_synack_covers_handshake_ip
#print axioms c12_icmp_covers_ip
#print axioms c12_sites_cover
end TRV.Props.C12
