import TRV.Model.Drivers
import TRV.Generated.LogicUdp
import TRV.Generated.LogicCommon
import TRV.Generated.LogicPackets
import TRV.Proofs.TieCommon
/-!
# Tie theorems: the UDP matcher model equals the decision tree REGENERATED from `udp/udp_driver.go`

Same method as `TRV/Props/TieIcmp.lean`.  `tie_udp_handle`: for every driver state and every parsed
packet the model's `udpRecv` (after `ReadAndParse`) is the regenerated tree of
`udpDriver.handleProbeLayers`, the atoms of the two `FrameParser` predicates it calls
(`IsTTLExceeded`, `IsDestinationUnreachable`) set to the model-side readings `isTE`, `isDU`; two
separate theorems (`tie_isTTLExceeded`, `tie_isDestUnreachable`) prove these equal to the predicates'
regenerated trees.

Reading of two atoms that is an assumption about code outside the tree: a stored `probeData` is never
the zero value (it carries `sendTime = time.Now()`), so `probe == (probeData{})` is "no probe found".
-/
namespace TRV.Props.TieUdp
open TRV TRV.Wire TRV.Drv TRV.Logic TRV.Generated

def kindOf (k : String) : String :=
  match (LogicUdp.sentinels ++ LogicCommon.sentinels.map (fun p => ("common." ++ p.1, "common." ++ p.2))).find? (·.1 = k) with
  | some p => p.2
  | none => k

def retryableKind (k : String) : Bool := k = "common.BadPacketError" || k = "common.ReceiveProbeNoPktError"

/-- what the engines make of the values `handleProbeLayers` returned; `probe` = the record the
    lookup atom stands for -/
def interp (probe : Option Sent) (src : Bytes) (r : R) : Out :=
  match r.get "1" with
  | some V.nil =>
    match r.get "0.TTL", r.get "0.IsDest", r.get "0.IP", probe with
    | some (V.int t), some (V.bool d), some (V.ref ip), some p =>
      if ip = "u.parser.GetIPPair().0.SrcAddr" then .accept t.toNat src d p.time else .fatal
    | _, _, _, _ => .fatal
  | some (V.err k) => if retryableKind (kindOf k) then .retry else .fatal
  | _ => .fatal

/-- the part of `udpRecv` after a successful `ReadAndParse` -/
def handle (s : UdpSt) (l3 : L3) (l4 : L4) : Out :=
  let info? : Option (Option ICMPInfo) := match l4 with
    | .icmp4 i => if (i.type = 11 ∧ i.code = 0) ∨ i.type = 3 then some (icmpInfo4 i) else none
    | .icmp6 i => if (i.type = 3 ∧ i.code = 0) ∨ i.type = 1 then some (icmpInfo6 i) else none
    | .tcp _ => none
  match info? with
  | none => .retry
  | some none => .retry
  | some (some info) =>
    if info.proto ≠ 17 then .retry else
    match quotedPorts info.payload with
    | none => .retry
    | some (sp, dp) =>
      if ¬ (info.qdst = s.cfg.target ∧ dp = s.cfg.tport) then .retry
      else if !s.cfg.loosen ∧ ¬ (info.qsrc = s.cfg.localA ∧ sp = s.cfg.lport) then .retry
      else match s.sent.find? (·.id = info.wrappedId) with
        | none => .retry
        | some p => .accept p.ttl l3.src (l3.src = s.cfg.target) p.time

theorem udpRecv_eq_handle (s : UdpSt) (pkt : Bytes) :
    udpRecv s pkt = if pkt.isEmpty then .fatal else
      match parse (pkt.take bufSize) with
      | none => .retry
      | some (l3, l4) => handle s l3 l4 := by
  unfold udpRecv
  rcases parse (pkt.take bufSize) with _ | ⟨l3, l4⟩ <;> rfl

def layerCode : L4 → Int
  | .icmp4 _ => 1
  | .icmp6 _ => 2
  | .tcp _ => 3

/-- the model's reading of `IsTTLExceeded` -/
def isTE : L4 → Bool
  | .icmp4 i => decide (i.type = 11 ∧ i.code = 0)
  | .icmp6 i => decide (i.type = 3 ∧ i.code = 0)
  | .tcp _ => false

/-- the model's reading of `IsDestinationUnreachable` -/
def isDU : L4 → Bool
  | .icmp4 i => decide (i.type = 3)
  | .icmp6 i => decide (i.type = 1)
  | .tcp _ => false

def i4 : L4 → ICMP4
  | .icmp4 i => i
  | _ => ⟨0, 0, 0, 0, []⟩
def i6 : L4 → ICMP6
  | .icmp6 i => i
  | _ => ⟨0, 0, []⟩

/-- `FrameParser.IsTTLExceeded` (regenerated) on the model's view: type/code words `type*256+code`,
    the constants `CreateICMPv4TypeCode(11,0)`, `CreateICMPv6TypeCode(3,0)` -/
theorem tie_isTTLExceeded (l4 : L4) (h4 : (i4 l4).code < 256) (h6 : (i6 l4).code < 256) :
    (LogicPackets.IsTTLExceeded.run
      { «p.GetTransportLayer()» := layerCode l4
        «layers.LayerTypeICMPv4» := 1
        «layers.LayerTypeICMPv6» := 2
        «p.ICMP4.TypeCode» := (i4 l4).type * 256 + (i4 l4).code
        «layers.CreateICMPv4TypeCode(layers.ICMPv4TypeTimeExceeded, layers.ICMPv4CodeTTLExceeded)» := 11 * 256 + 0
        «p.ICMP6.TypeCode» := (i6 l4).type * 256 + (i6 l4).code
        «layers.CreateICMPv6TypeCode(layers.ICMPv6TypeTimeExceeded, layers.ICMPv6CodeHopLimitExceeded)» := 3 * 256 + 0 }).rets
      = [("0", V.bool (isTE l4))] := by
  cases l4 with
  | tcp t => simp [LogicPackets.IsTTLExceeded.run, layerCode, isTE]
  | icmp4 i =>
    simp only [i4] at h4
    simp [LogicPackets.IsTTLExceeded.run, layerCode, isTE, i4]
    rw [Bool.eq_iff_iff]; simp; omega
  | icmp6 i =>
    simp only [i6] at h6
    simp [LogicPackets.IsTTLExceeded.run, layerCode, isTE, i6]
    rw [Bool.eq_iff_iff]; simp; omega

/-- `FrameParser.IsDestinationUnreachable` (regenerated) on the model's view: ICMPv4 type 3, ICMPv6 type 1 -/
theorem tie_isDestUnreachable (l4 : L4) :
    (LogicPackets.IsDestinationUnreachable.run
      { «p.GetTransportLayer()» := layerCode l4
        «layers.LayerTypeICMPv4» := 1
        «layers.LayerTypeICMPv6» := 2
        «p.ICMP4.TypeCode.Type()» := (i4 l4).type
        «p.ICMP6.TypeCode.Type()» := (i6 l4).type }).rets
      = [("0", V.bool (isDU l4))] := by
  cases l4 with
  | tcp t => simp [LogicPackets.IsDestinationUnreachable.run, layerCode, isDU]
  | icmp4 i => by_cases h : i.type = 3 <;> simp [LogicPackets.IsDestinationUnreachable.run, layerCode, isDU, i4, h]
  | icmp6 i => by_cases h : i.type = 1 <;> simp [LogicPackets.IsDestinationUnreachable.run, layerCode, isDU, i6, h]

def infoOf : L4 → Option ICMPInfo
  | .icmp4 i => icmpInfo4 i
  | .icmp6 i => icmpInfo6 i
  | .tcp _ => none

def dInfo : ICMPInfo := ⟨0, 0, [], [], []⟩
def dSent : Sent := ⟨0, 0, 0, 0⟩

/-- the record the lookup atoms stand for -/
def foundOf (s : UdpSt) (inf : Option ICMPInfo) : Option Sent := s.sent.find? (·.id = (inf.getD dInfo).wrappedId)

/-- the atoms of `handleProbeLayers` from: the layer code, the two predicates, the quoted information -/
def atomsOf (lc : Int) (te du : Bool) (inf : Option ICMPInfo) (s : UdpSt) (src : Bytes) : LogicUdp.handleProbeLayers.Atoms :=
  let info := inf.getD dInfo
  let ports := (quotedPorts info.payload).getD (0, 0)
  { «u.parser.GetIPPair().1 == nil» := true
    «u.parser.GetTransportLayer()» := lc
    «layers.LayerTypeICMPv4» := 1
    «layers.LayerTypeICMPv6» := 2
    «u.parser.IsTTLExceeded()» := te
    «u.parser.IsDestinationUnreachable()» := du
    «u.parser.GetICMPInfo().1 == nil» := inf.isSome
    «u.parser.GetICMPInfo().0.WrappedProtocol» := info.proto
    «packets.ParseUDPFirstBytes(u.parser.GetICMPInfo().0.Payload).1 == nil» := (quotedPorts info.payload).isSome
    «netip.AddrPortFrom(u.parser.GetICMPInfo().0.ICMPPair.DstAddr, packets.ParseUDPFirstBytes(u.parser.GetICMPInfo().0.Payload).0.DstPort) == u.getTargetAddrPort()» :=
      decide (info.qdst = s.cfg.target ∧ ports.2 = s.cfg.tport)
    «u.config.LoosenICMPSrc» := s.cfg.loosen
    «netip.AddrPortFrom(u.parser.GetICMPInfo().0.ICMPPair.SrcAddr, packets.ParseUDPFirstBytes(u.parser.GetICMPInfo().0.Payload).0.SrcPort) == u.getLocalAddrPort()» :=
      decide (info.qsrc = s.cfg.localA ∧ ports.1 = s.cfg.lport)
    «u.parser.GetICMPInfo().0.WrappedPacketID» := info.wrappedId
    «u.findMatchingProbe(probeID(u.parser.GetICMPInfo().0.WrappedPacketID)).1» := (foundOf s inf).isSome
    «u.findMatchingProbe(probeID(u.parser.GetICMPInfo().0.WrappedPacketID)).0 == probeData{}» := (foundOf s inf).isNone
    «time.Since(u.findMatchingProbe(probeID(u.parser.GetICMPInfo().0.WrappedPacketID)).0.sendTime)» := 0
    «u.findMatchingProbe(probeID(u.parser.GetICMPInfo().0.WrappedPacketID)).0.ttl» := ((foundOf s inf).getD dSent).ttl
    «u.parser.GetIPPair().0.SrcAddr == u.getTargetAddrPort().Addr()» := decide (src = s.cfg.target) }

def found (s : UdpSt) (l4 : L4) : Option Sent := foundOf s (infoOf l4)

/-- the atoms of `handleProbeLayers`, read off the model's view of a parsed packet -/
def atoms (s : UdpSt) (l3 : L3) (l4 : L4) : LogicUdp.handleProbeLayers.Atoms :=
  atomsOf (layerCode l4) (isTE l4) (isDU l4) (infoOf l4) s l3.src

/-- the model's tail once the quoted information is known; must stay the tail of `handle` word for word:
    the closing `rfl` of `tie_udp_handle` compares the two -/
def rest (s : UdpSt) (src : Bytes) (info : ICMPInfo) : Out :=
  if info.proto ≠ 17 then .retry else
  match quotedPorts info.payload with
  | none => .retry
  | some (sp, dp) =>
    if ¬ (info.qdst = s.cfg.target ∧ dp = s.cfg.tport) then .retry
    else if !s.cfg.loosen ∧ ¬ (info.qsrc = s.cfg.localA ∧ sp = s.cfg.lport) then .retry
    else match s.sent.find? (·.id = info.wrappedId) with
      | none => .retry
      | some p => .accept p.ttl src (src = s.cfg.target) p.time

section
open TRV.Proofs.TieCommon

theorem kind_bad : retryable (kindIn (LogicUdp.sentinels ++ commonTable) "common.BadPacketError") = true :=
  retryable_common (by simp [LogicUdp.sentinels]) retryable_bad

theorem kind_nomatch :
    retryable (kindIn (LogicUdp.sentinels ++ commonTable) "common.ErrPacketDidNotMatchTraceroute") = true :=
  retryable_common (by simp [LogicUdp.sentinels]) retryable_nomatch

theorem interp_err (probe : Option Sent) (src : Bytes) (e : List String) (k : String) :
    interp probe src ⟨e, [("0", V.nil), ("1", V.err k)]⟩
      = if retryable (kindIn (LogicUdp.sentinels ++ commonTable) k) then .retry else .fatal := by
  simp only [interp, get_pair]
  rfl

end

theorem interp_ok (p : Sent) (src : Bytes) (e : List String) (t rtt : Int) (d : Bool) :
    interp (some p) src ⟨e, [("0", V.ref "new common.ProbeResponse"), ("0.TTL", V.int t), ("0.IP", V.ref "u.parser.GetIPPair().0.SrcAddr"),
      ("0.RTT", V.int rtt), ("0.IsDest", V.bool d), ("1", V.nil)]⟩ = .accept t.toNat src d p.time := by
  simp [interp, Proofs.TieCommon.get_ok]

attribute [local simp] interp_err interp_ok kind_bad kind_nomatch rest in
/-- the regenerated tree on an ICMP layer (either family), as a function of the two predicates and
    the quoted information -/
theorem core (s : UdpSt) (src : Bytes) (lc : Int) (hlc : lc = 1 ∨ lc = 2) (te du : Bool) (inf : Option ICMPInfo) :
    interp (foundOf s inf) src (LogicUdp.handleProbeLayers.run (atomsOf lc te du inf s src))
      = match (if te || du then some inf else none : Option (Option ICMPInfo)) with
        | none => .retry
        | some none => .retry
        | some (some info) => rest s src info := by
  have hl : (lc == 1 || lc == 2) = true := by rcases hlc with h | h <;> simp [h]
  unfold LogicUdp.handleProbeLayers.run
  dsimp only [atomsOf]
  by_cases hk : (te || du) = true
  · have hk' : (!te && !du) = false := by cases te <;> cases du <;> simp_all
    rcases inf with _ | info
    · simp [hl, hk, hk']
    · simp only [hl, hk, hk', foundOf, Option.getD_some, Option.isSome_some, ↓reduceIte, Bool.not_true, Bool.false_eq_true]
      by_cases hp : info.proto = 17
      · rcases Option.eq_none_or_eq_some (quotedPorts info.payload) with hq | ⟨⟨sp, dp⟩, hq⟩
        · simp [*]
        · by_cases hd : info.qdst = s.cfg.target ∧ dp = s.cfg.tport
          · by_cases hs : s.cfg.loosen = true ∨ (info.qsrc = s.cfg.localA ∧ sp = s.cfg.lport)
            · rcases Option.eq_none_or_eq_some (s.sent.find? (·.id = info.wrappedId)) with hf | ⟨p, hf⟩ <;>
                refine hs.elim (fun h1 => ?_) (fun h1 => ?_) <;> simp [*]
            · simp [*, not_or.mp hs]
          · simp [*]
      · simp [hp]
  · have hk' : (!te && !du) = true := by cases te <;> cases du <;> simp_all
    simp [hl, hk, hk']

/-- for every driver state and every parsed packet, the model's UDP matcher is the decision tree
    regenerated from `udpDriver.handleProbeLayers` -/
theorem tie_udp_handle (s : UdpSt) (l3 : L3) (l4 : L4) :
    interp (found s l4) l3.src (LogicUdp.handleProbeLayers.run (atoms s l3 l4)) = handle s l3 l4 := by
  cases l4 with
  | tcp t => simp [LogicUdp.handleProbeLayers.run, atoms, atomsOf, handle, layerCode, interp_err, kind_nomatch]
  | _ =>
    -- an ICMP layer of either family
    unfold atoms found
    refine (core s l3.src _ ?_ _ _ _).trans ?_
    · simp [layerCode]
    · simp only [handle, isTE, isDU, infoOf, Bool.or_eq_true, decide_eq_true_eq]
      rfl

#print axioms udpRecv_eq_handle
#print axioms tie_isTTLExceeded
#print axioms tie_isDestUnreachable
#print axioms kind_bad
#print axioms kind_nomatch
#print axioms interp_err
#print axioms interp_ok
#print axioms core
#print axioms tie_udp_handle

end TRV.Props.TieUdp
