import TRV.Model.Alloc
import TRV.Model.Link
import TRV.Model.Classify
import TRV.Model.Drivers
import TRV.Model.Wire
import TRV.Generated.LogicPackets
import TRV.Generated.LogicIcmp
import TRV.Proofs.TieCommon
/-!
# Tie theorems: allocators, link-layer strip, `ReadAndParse`, `getRTTFromRelSeq`, the frame parser's helpers — model = regenerated tree

See `TRV/Props/TieEngine.lean` for the method.  Here the integer semantics matter most: the
regenerated `AllocPacketID` subtracts and narrows in `uint32`/`uint16` exactly as the Go types say,
and the theorem equates it with the `BitVec` model of `TRV.Alloc` for every counter value (wrap-around
included).

Reading of one atom that is an assumption about code outside the tree: a recorded ICMP send time is
never the zero time, so `tie_icmp_getRTT` sets the `IsZero()` atom to `false` (the model's
`icmpLookup` has no such test).
-/
namespace TRV.Props.TiePackets
open TRV TRV.Logic TRV.Generated

/-- `AllocPacketID` (regenerated, Nat arithmetic with explicit `% 2^32`, `% 2^16`) returns the base the
    `BitVec` model returns, for the counter value `curPacketID.Add` returned -/
theorem tie_allocPacketID (cur : BitVec 32) (maxTTL : BitVec 8) :
    (LogicPackets.AllocPacketID.run
      { «maxTTL» := maxTTL.toNat
        «curPacketID.Add(uint32(maxTTL))» := (Alloc.packetID cur maxTTL).2.toNat }).rets
      = [("0", V.int ((Alloc.packetID cur maxTTL).1.toNat : Int))] := by
  have h8 : maxTTL.toNat < 4294967296 := Nat.lt_trans maxTTL.isLt (by decide)
  -- in `uint32` the subtraction undoes the addition: in the model by `add_sub_cancel`, in the tree by `add_sub_mod`
  have hsub : cur + maxTTL.zeroExtend 32 - maxTTL.zeroExtend 32 = cur := BitVec.add_sub_cancel _ _
  simp only [LogicPackets.AllocPacketID.run, Alloc.packetID, hsub]
  have hnat : (cur + maxTTL.zeroExtend 32).toNat = (cur.toNat + maxTTL.toNat) % 4294967296 := by
    simp [BitVec.toNat_add, Nat.mod_eq_of_lt h8]
  rw [hnat, Nat.mod_mod, Proofs.TieCommon.add_sub_mod _ _ h8, Nat.mod_eq_of_lt cur.isLt]
  simp [BitVec.truncate]

/-- `nextEchoID` returns the low 16 bits of the incremented counter, as the model says -/
theorem tie_nextEchoID (cur : BitVec 32) :
    (LogicIcmp.nextEchoID.run { «curEchoID.Add(1)» := (Alloc.echoID cur).2.toNat }).rets
      = [("0", V.int ((Alloc.echoID cur).1.toNat : Int))] := by
  simp [LogicIcmp.nextEchoID.run, Alloc.echoID, BitVec.toNat_setWidth, BitVec.truncate]

def interpStrip (f : Bytes) (r : R) : Link.Strip :=
  match r.get "1", r.get "0" with
  | some (V.err _), _ => .error
  | some V.nil, some V.nil => .skip
  | some V.nil, some (V.ref _) => .packet (f.drop 14)      -- `eth.Payload`: the bytes after the 14-byte header
  | _, _ => .error

/-- `stripEthernetHeader`: decode error below 14 bytes, skip unless the EtherType is IPv4/IPv6,
    else the payload — the model's `Link.strip` -/
theorem tie_stripEthernetHeader (f : Bytes) :
    interpStrip f (LogicPackets.stripEthernetHeader.run
      { «(&zero(github.com/google/gopacket/layers.Ethernet)).DecodeFromBytes(buf, gopacket.NilDecodeFeedback) == nil» := decide (14 ≤ f.length)
        «zero(github.com/google/gopacket/layers.Ethernet).EthernetType» := (u16 f 12).getD 0
        «zero(github.com/google/gopacket/layers.Ethernet).Payload» := f.drop 14 }) = Link.strip f := by
  unfold Link.strip LogicPackets.stripEthernetHeader.run
  by_cases h : f.length < 14
  · simp [h, interpStrip, R.get]
  · have h' : 14 ≤ f.length := by omega
    obtain ⟨et, hu⟩ := TRV.u16_of_lt (b := f) (off := 12) (by omega)
    by_cases h4 : et = 2048 <;> by_cases h6 : et = 34525 <;> simp [h, h', hu, h4, h6, interpStrip, R.get]

/-- error chains as lists of links; `c` = the chain of the read error, `none` = no error -/
def interpRead (c : Classify.Chain) (r : R) : Option Classify.Chain :=
  match r.get "0" with
  | some V.nil => none
  | some (V.err k) =>
    if k = "common.ReceiveProbeNoPktError" then some (.noPkt :: c)
    else if k = "fmt.Errorf %w source.Read(buffer).1" then some (.wrap :: c)
    else if k = "fmt.Errorf" then some [.cause false 0]
    else if k = "parser.Parse(buffer[:source.Read(buffer).0])" then some [.badPkt, .cause false 1]
    else some []
  | _ => some []

/-- `ReadAndParse` when `source.Read` fails: a deadline becomes a no-packet error wrapping the cause,
    any other read error is wrapped — the model's `Classify.readAndParse` on `.err` -/
theorem tie_readAndParse_err (c : Classify.Chain) (n : Int) (pe : Bool) :
    interpRead c (LogicPackets.ReadAndParse.run
      { «source.Read(buffer).0» := n
        «errors.Is(source.Read(buffer).1, os.ErrDeadlineExceeded)» := Classify.isDeadline c
        «source.Read(buffer).1 == nil» := false
        «parser.Parse(buffer[:source.Read(buffer).0]) == nil» := pe }) = Classify.readAndParse (.err c) := by
  unfold LogicPackets.ReadAndParse.run Classify.readAndParse
  cases h : Classify.isDeadline c <;> simp [interpRead, R.get, h]

/-- `ReadAndParse` when `source.Read` succeeds: zero bytes are a fresh fatal error, a parse error is
    returned as the parser made it, otherwise no error — the model's `Classify.readAndParse` on `.data` -/
theorem tie_readAndParse_data (n : Nat) (parseErr : Bool) :
    interpRead [] (LogicPackets.ReadAndParse.run
      { «source.Read(buffer).0» := (n : Int)
        «errors.Is(source.Read(buffer).1, os.ErrDeadlineExceeded)» := false
        «source.Read(buffer).1 == nil» := true
        «parser.Parse(buffer[:source.Read(buffer).0]) == nil» := !parseErr }) = Classify.readAndParse (.data n parseErr) := by
  unfold LogicPackets.ReadAndParse.run Classify.readAndParse
  cases n with
  | zero => simp [interpRead, R.get]
  | succ m =>
    have : ¬ ((m : Int) + 1 = 0) := by omega
    cases parseErr <;> simp [interpRead, R.get, this]

/-- `getRTTFromRelSeq`: an RTT is produced exactly when the model's `icmpLookup` finds the probe —
    sequence number at most 255, inside the probed TTL range, recorded; the `IsZero()` test on the
    recorded time is read as never true -/
theorem tie_icmp_getRTT (s : Drv.IcmpSt) (seq : Nat) (rtt : Int) :
    (LogicIcmp.getRTTFromRelSeq.run
      { «seq» := seq
        «s.params.ParallelParams.MinTTL» := s.cfg.min
        «s.params.ParallelParams.MaxTTL» := s.cfg.max
        «s.findMatchingProbe(uint8(seq)).1» := (s.find (seq % 256)).isSome
        «s.findMatchingProbe(uint8(seq)).0.IsZero()» := false
        «time.Since(s.findMatchingProbe(uint8(seq)).0)» := rtt }).okAt "1" = (Drv.icmpLookup s seq).isSome := by
  unfold LogicIcmp.getRTTFromRelSeq.run Drv.icmpLookup
  by_cases h : seq > 255
  · simp [h, R.okAt, Proofs.TieCommon.get_pair]
  · have hm : seq % 256 = seq := by omega
    by_cases h2 : seq < s.cfg.min ∨ seq > s.cfg.max
    · rcases h2 with h2 | h2 <;> simp [h, hm, h2, R.okAt, Proofs.TieCommon.get_pair]
    · have h3 : ¬ seq < s.cfg.min := by omega
      have h4 : ¬ seq > s.cfg.max := by omega
      cases hf : s.find seq <;> simp [h, hm, h3, h4, hf, R.okAt, Proofs.TieCommon.get_pair]

/-- `ParseTCPFirstBytes` reads the ports at octets 0 and 2 and the sequence number at octet 4 of the
    quoted transport header and needs 8 octets: the model's `quotedPorts` / `quotedSeq` -/
theorem tie_parseTCPFirstBytes (p : Bytes) :
    let r := LogicPackets.ParseTCPFirstBytes.run { «buffer» := p }
    (r.okAt "1" = ((Drv.quotedPorts p).isSome && (Drv.quotedSeq p).isSome)) ∧
    (∀ sp dp sq, Drv.quotedPorts p = some (sp, dp) → Drv.quotedSeq p = some sq →
      r.get "0.SrcPort" = some (V.int sp) ∧ r.get "0.DstPort" = some (V.int dp) ∧ r.get "0.Seq" = some (V.int sq)) := by
  by_cases hl : p.length < 8
  · have hlI : ((p.length : Nat) : Int) < 8 := by omega
    simp [LogicPackets.ParseTCPFirstBytes.run, Drv.quotedPorts, Drv.quotedSeq, hl, hlI, R.okAt, R.get]
  · have hlI : ¬ (((p.length : Nat) : Int) < 8) := by omega
    obtain ⟨a, ha⟩ := TRV.u16_of_lt (b := p) (off := 0) (by omega)
    obtain ⟨b, hb⟩ := TRV.u16_of_lt (b := p) (off := 2) (by omega)
    obtain ⟨c, hc⟩ := TRV.u32_of_lt (b := p) (off := 4) (by omega)
    have e0 : Logic.be (p.take 2) 2 = a := Proofs.BeNat.be16_of_u16 ha
    have e2 := Proofs.BeNat.be16_of_u16 hb
    have e4 := Proofs.BeNat.be32_of_u32 hc
    simp [LogicPackets.ParseTCPFirstBytes.run, Drv.quotedPorts, Drv.quotedSeq, hl, hlI, ha, hb, hc, e0, e2, e4, R.okAt, R.get]

/-- `ParseUDPFirstBytes`: ports at octets 0 and 2, 8 octets needed — the model's `quotedPorts` -/
theorem tie_parseUDPFirstBytes (p : Bytes) :
    let r := LogicPackets.ParseUDPFirstBytes.run { «buffer» := p }
    (r.okAt "1" = (Drv.quotedPorts p).isSome) ∧
    (∀ sp dp, Drv.quotedPorts p = some (sp, dp) →
      r.get "0.SrcPort" = some (V.int sp) ∧ r.get "0.DstPort" = some (V.int dp)) := by
  by_cases hl : p.length < 8
  · have hlI : ((p.length : Nat) : Int) < 8 := by omega
    simp [LogicPackets.ParseUDPFirstBytes.run, Drv.quotedPorts, hl, hlI, R.okAt, R.get]
  · have hlI : ¬ (((p.length : Nat) : Int) < 8) := by omega
    obtain ⟨a, ha⟩ := TRV.u16_of_lt (b := p) (off := 0) (by omega)
    obtain ⟨b, hb⟩ := TRV.u16_of_lt (b := p) (off := 2) (by omega)
    have e0 : Logic.be (p.take 2) 2 = a := Proofs.BeNat.be16_of_u16 ha
    have e2 := Proofs.BeNat.be16_of_u16 hb
    simp [LogicPackets.ParseUDPFirstBytes.run, Drv.quotedPorts, hl, hlI, ha, hb, e0, e2, R.okAt, R.get]

/-- the atoms of `GetICMPInfo` read off the model's decoders of the quoted header -/
def infoAtoms (lc : Int) (q4 : Option Wire.IP4) (emb : Bool) (q6 : Option Wire.IP6) (embBytes : Bytes) :
    LogicPackets.GetICMPInfo.Atoms :=
  { «p.GetIPPair().1 == nil» := true
    «p.GetTransportLayer()» := lc
    «layers.LayerTypeICMPv4» := 1
    «layers.LayerTypeICMPv6» := 2
    «(&zero(github.com/google/gopacket/layers.IPv4)).DecodeFromBytes(p.ICMP4.Payload, gopacket.NilDecodeFeedback) == nil» := q4.isSome
    «zero(github.com/google/gopacket/layers.IPv4).Id» := (q4.map (·.id)).getD 0
    «zero(github.com/google/gopacket/layers.IPv4).Protocol» := (q4.map (·.proto)).getD 0
    «slices.Clone(zero(github.com/google/gopacket/layers.IPv4).Payload)» := (q4.map (·.payload)).getD []
    «extractEmbeddedIPv6(p.ICMP6.Payload).0» := embBytes
    «extractEmbeddedIPv6(p.ICMP6.Payload).1 == nil» := emb
    «(&zero(github.com/google/gopacket/layers.IPv6)).DecodeFromBytes(extractEmbeddedIPv6(p.ICMP6.Payload).0, gopacket.NilDecodeFeedback) == nil» := q6.isSome
    «zero(github.com/google/gopacket/layers.IPv6).NextHeader» := (q6.map (·.nextHeader)).getD 0
    «zero(github.com/google/gopacket/layers.IPv6).Length» := (q6.map (·.len)).getD 0
    «slices.Clone(zero(github.com/google/gopacket/layers.IPv6).Payload)» := (q6.map (·.payload)).getD [] }

section
open TRV.Proofs.TieCommon (get_info get_pair)

/-- `GetICMPInfo`, ICMPv4 arm: it succeeds exactly when the model's `icmpInfo4` does, the wrapped
    identifier is the quoted header's IP id and the wrapped protocol its protocol field -/
theorem tie_getICMPInfo4 (i : Wire.ICMP4) :
    let r := LogicPackets.GetICMPInfo.run (infoAtoms 1 (Wire.ip4 i.payload) false none [])
    r.okAt "1" = (Wire.icmpInfo4 i).isSome ∧
    (∀ info, Wire.icmpInfo4 i = some info →
      r.get "0.WrappedPacketID" = some (V.int info.wrappedId) ∧ r.get "0.WrappedProtocol" = some (V.int info.proto)) := by
  unfold Wire.icmpInfo4
  cases h : Wire.ip4 i.payload <;> simp [LogicPackets.GetICMPInfo.run, infoAtoms, get_info, R.okAt, get_pair]

/-- `GetICMPInfo`, ICMPv6 arm: embedded-header extraction, then the quoted IPv6 header; the wrapped
    identifier is the quoted header's LENGTH FIELD for a quoted UDP datagram and 0 otherwise (not the
    number of quoted octets actually present), the wrapped protocol its next-header field -/
theorem tie_getICMPInfo6 (i : Wire.ICMP6) :
    let emb := match u8 i.payload 4 with | some b => decide (b / 16 = 6) | none => false
    let r := LogicPackets.GetICMPInfo.run (infoAtoms 2 none emb (if emb then Wire.ip6 (i.payload.drop 4) else none) (i.payload.drop 4))
    r.okAt "1" = (Wire.icmpInfo6 i).isSome ∧
    (∀ info, Wire.icmpInfo6 i = some info →
      r.get "0.WrappedPacketID" = some (V.int info.wrappedId) ∧ r.get "0.WrappedProtocol" = some (V.int info.proto)) := by
  unfold Wire.icmpInfo6
  cases hb : u8 i.payload 4 with
  | none => simp [LogicPackets.GetICMPInfo.run, infoAtoms, R.okAt, get_pair]
  | some b =>
    by_cases h6 : b / 16 = 6
    · cases hq : Wire.ip6 (i.payload.drop 4) with
      | none => simp [LogicPackets.GetICMPInfo.run, infoAtoms, R.okAt, get_pair, h6]
      | some q =>
        by_cases h17 : q.nextHeader = 17 <;>
          simp [LogicPackets.GetICMPInfo.run, infoAtoms, R.okAt, get_info, h6, h17]
    · simp [LogicPackets.GetICMPInfo.run, infoAtoms, R.okAt, get_pair, h6]

end

/-- `getParser`: on a non-empty buffer the version nibble selects the IPv4 or the IPv6 parser, any
    other value is a (retryable) bad packet — the dispatch at the top of the model's `Wire.parse` -/
theorem tie_getParser (buf : Bytes) (b0 : Nat) (h : u8 buf 0 = some b0) :
    let r := LogicPackets.getParser.run { «buffer» := buf, «buffer[0] >> 4» := b0 / 16 }
    (r.get "0" = some (V.ref "p.parserv4") ↔ b0 / 16 = 4) ∧
    (r.get "0" = some (V.ref "p.parserv6") ↔ b0 / 16 = 6) ∧
    (r.get "1" = some (V.err "common.BadPacketError") ↔ (b0 / 16 ≠ 4 ∧ b0 / 16 ≠ 6)) := by
  have hl : ¬ (((buf.length : Nat) : Int) < 1) := by
    have := TRV.u8_isSome_iff.mp (Option.isSome_of_eq_some h)
    omega
  by_cases h4 : b0 / 16 = 4 <;> by_cases h6 : b0 / 16 = 6 <;>
    simp [LogicPackets.getParser.run, Proofs.TieCommon.get_pair, hl, h4, h6] <;> omega

/-- every exit of `FrameParser.Parse`: success, the error `getParser` returned (handed on unchanged),
    the ignored-layer sentinel or a `BadPacketError` — never a fresh non-retryable error -/
theorem tie_parse_exits (a : LogicPackets.Parse.Atoms) :
    let r := LogicPackets.Parse.run a
    r.get "0" = some V.nil ∨ r.get "0" = some (V.err "p.getParser(buffer).1") ∨
    r.get "0" = some (V.err "ignoredLayerErr") ∨ r.get "0" = some (V.err "common.BadPacketError") := by
  unfold LogicPackets.Parse.run
  (repeat' split) <;> simp [R.get]

/-- the sentinel `ignoredLayerErr` among the exits of `Parse` is initialised with a
    `ReceiveProbeNoPktError`: the engines skip such a packet -/
theorem tie_ignoredLayerErr_retryable :
    (LogicPackets.sentinels.find? (·.1 = "ignoredLayerErr")).map (·.2) = some "common.ReceiveProbeNoPktError" := by
  simp [LogicPackets.sentinels]

#print axioms tie_getICMPInfo4
#print axioms tie_getICMPInfo6
#print axioms tie_getParser
#print axioms tie_parse_exits
#print axioms tie_ignoredLayerErr_retryable
#print axioms tie_parseTCPFirstBytes
#print axioms tie_parseUDPFirstBytes
#print axioms tie_allocPacketID
#print axioms tie_nextEchoID
#print axioms tie_stripEthernetHeader
#print axioms tie_readAndParse_err
#print axioms tie_readAndParse_data
#print axioms tie_icmp_getRTT

end TRV.Props.TiePackets
