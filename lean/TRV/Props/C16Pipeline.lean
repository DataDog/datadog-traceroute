import TRV.Props.C16
/-!
# C16 over the whole pipeline: the FINISHED document of `RunTraceroute`

`RunTraceroute` (traceroute/traceroute.go) builds the document from what `runTracerouteMulti`
collected — the successful runs in completion order and one sample per end-to-end probe — then calls
`Normalize()` and, when asked, `RemovePrivateHops()`.  `assemble runs rtts` is that document, the runs and
samples as given (plain lists, not the collection model of C15) and no derived field written; `finish` is
`normalize` (C16) on it, then `removePrivate` (C17) when `skipPrivate` is set.  The theorems state the
property for the document the caller receives, for every collection of runs (each with at least one
hop, as C03 guarantees, hops as `ToHops` leaves them) and samples — zero runs (an end-to-end-only
request) and zero samples (a traceroute-only request) included — with and without redaction.
-/
namespace TRV.Props.C16Pipeline
open TRV TRV.Result TRV.ResSpec

/-- what `runTracerouteMulti` hands to `RunTraceroute` -/
def assemble (runs : List Run) (rtts : List Rat) : Doc := { runs := runs, e2e := { rtts := rtts } }

/-- `RunTraceroute` after `runTracerouteMulti` succeeded, reverse DNS off: it is
    `Result.pipeline false skipPrivate res draws (assemble runs rtts)` for any `res`, by `rfl`
    (C17 speaks of `pipeline` with reverse DNS on as well) -/
def finish (draws : List Nat) (skipPrivate : Bool) (runs : List Run) (rtts : List Rat) : Doc :=
  let d := normalize draws (assemble runs rtts)
  if skipPrivate then removePrivate d else d

private theorem assemble_fresh {runs : List Run} {rtts : List Rat}
    (hf : ∀ r ∈ runs, ∀ h ∈ r.hops, h.reachable = false) : Fresh (assemble runs rtts) :=
  ⟨hf, rfl, ⟨rfl, rfl, rfl, rfl, rfl, rfl, rfl⟩⟩

/-- redaction keeps the document consistent: a redacted entry has neither an address nor the
    reachable flag, run lengths and every statistic are untouched -/
theorem c16_redaction_keeps_consistent {d : Doc} (h : Consistent d) : Consistent (removePrivate d) :=
  Proofs.Result.consistent_of_map (Proofs.Result.runsHops_removePrivate d) rfl rfl
    (fun x hx => by
      unfold redactHop
      split
      · simp [HasAddr]
      · exact hx) h

/-- the finished document is self-consistent, whatever was collected -/
theorem c16_pipeline_consistent (draws : List Nat) (skipPrivate : Bool) (runs : List Run) (rtts : List Rat)
    (hne : ∀ r ∈ runs, r.hops ≠ []) (hf : ∀ r ∈ runs, ∀ h ∈ r.hops, h.reachable = false) :
    Consistent (finish draws skipPrivate runs rtts) := by
  have hc := TRV.Props.C16.c16_consistent draws (assemble runs rtts) (assemble_fresh hf) hne
  unfold finish
  cases skipPrivate
  · exact hc
  · exact c16_redaction_keeps_consistent hc

/-- identifiers of the finished document: pairwise distinct whenever the generator's draws are -/
theorem c16_pipeline_ids (draws : List Nat) (skipPrivate : Bool) (runs : List Run) (rtts : List Rat)
    (hnd : draws.Nodup) (hlen : runs.length + 1 ≤ draws.length) :
    IdsDistinct (finish draws skipPrivate runs rtts) := by
  have h := TRV.Props.C16.c16_ids_distinct draws (assemble runs rtts) hnd hlen
  unfold finish
  cases skipPrivate
  · exact h
  · unfold IdsDistinct at *
    simpa [removePrivate, List.map_map, Function.comp_def] using h

/-- an end-to-end-only request (no runs at all): packets sent = the sample count, received = the
    positive samples, loss = 1/3 — evaluated by the kernel on the finished document -/
example :
    let d := finish [7] false [] [(3 : Rat) / 2, 0, (5 : Rat) / 4]
    d.e2e.sent = 3 ∧ d.e2e.received = 2 ∧ d.e2e.loss = (1 : Rat) / 3 ∧ d.testRunId = 7 := by decide +kernel

#print axioms c16_redaction_keeps_consistent
#print axioms c16_pipeline_consistent
#print axioms c16_pipeline_ids
end TRV.Props.C16Pipeline
