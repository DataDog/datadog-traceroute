import TRV.Spec.Policy
/-!
# C20 — TCP method policy: SACK never masked, fallback only when unsupported

`syn`, `sack`, `sock` are what the three closures of `runTracerouteOnce` return when invoked (any
outcome, any error chain); `Calls` counts invocations.  "SACK failed as unsupported" = a
`NotSupportedError` layer occurs anywhere in the error chain (`errors.As`).
-/
namespace TRV.Props.C20
open TRV.Policy TRV.Spec.Policy

private theorem hasNS_iff (c : Chain) : hasNS c = true ↔ Layer.notSupported ∈ c := by
  simp [hasNS, List.any_eq_true]

/-- Method `sack`: the outcome IS the SACK attempt's outcome (a SACK trace or its error, unchanged);
    the SYN closure is never invoked, so a SACK failure cannot be masked by a SYN trace. -/
theorem c20_sack_never_masked (syn sack sock : Out) :
    fallback .sack syn sack sock = (sack, { sack := 1 }) ∧
    (fallback .sack syn sack sock).2.syn = 0 := by
  simp [fallback]

/-- Method `prefer_sack`: the SYN closure runs exactly when the SACK attempt failed with a
    `NotSupportedError` somewhere in its chain; SACK itself is always attempted exactly once. -/
theorem c20_prefer_iff_unsupported (syn sack sock : Out) :
    ((fallback .preferSack syn sack sock).2.syn = 1 ↔ ∃ c, sack = .err c ∧ Layer.notSupported ∈ c) ∧
    ((fallback .preferSack syn sack sock).2.syn = 0 ∨ (fallback .preferSack syn sack sock).2.syn = 1) ∧
    (fallback .preferSack syn sack sock).2.sack = 1 := by
  cases sack with
  | ok r => simp [fallback]
  | err c =>
    by_cases h : hasNS c = true
    · have := (hasNS_iff c).mp h
      simp [fallback, h, this]
    · have hn : Layer.notSupported ∉ c := fun hm => h ((hasNS_iff c).mpr hm)
      simp [fallback, h, hn]

/-- … for every wrapping depth: however many layers (`pre`) wrap the `NotSupportedError` and whatever
    it wraps in turn (`post`), `prefer_sack` falls back and returns the SYN outcome. -/
theorem c20_prefer_any_depth (syn sock : Out) (pre post : Chain) :
    fallback .preferSack syn (.err (pre ++ Layer.notSupported :: post)) sock
      = (syn, { sack := 1, syn := 1 }) := by
  have : hasNS (pre ++ Layer.notSupported :: post) = true := by simp [hasNS]
  simp [fallback, this]

/-- Method `prefer_sack`, any other SACK failure (no `NotSupportedError` in its chain): the failure is
    returned, wrapped once (so the original chain is intact below the wrapper), SYN is not run, and
    the returned error is still not an "unsupported" error. -/
theorem c20_other_failure_reported (syn sock : Out) (c : Chain) (h : Layer.notSupported ∉ c) :
    fallback .preferSack syn (.err c) sock = (.err (.msg tagFatal :: c), { sack := 1 }) ∧
    (fallback .preferSack syn (.err c) sock).2.syn = 0 ∧
    hasNS (.msg tagFatal :: c) = false := by
  have hn : hasNS c = false := by
    rw [Bool.eq_false_iff, Ne, hasNS_iff]
    exact h
  -- the wrapper is a `msg` layer: `hasNS` of the wrapped chain is `hasNS c`
  refine ⟨?_, ?_, hn⟩ <;> simp [fallback, hn]

/-- A successful SACK trace under `prefer_sack` is returned as is, SYN not run. -/
theorem c20_prefer_success (syn sock : Out) (r : Nat) :
    fallback .preferSack syn (.ok r) sock = (.ok r, { sack := 1 }) := by
  simp [fallback]

/-- Method `syn` (and the default, empty method): the SACK closure — the only code that dials the
    target — is never invoked; the outcome is the SYN outcome. -/
theorem c20_syn_never_dials (m : Method) (hm : m = .syn ∨ m = .empty) (syn sack sock : Out) :
    (fallback m syn sack sock).2.sack = 0 ∧ (fallback m syn sack sock).1 = syn := by
  rcases hm with rfl | rfl <;> simp [fallback]

/-- End-to-end probes never use SACK, whatever method was requested: after the override of
    `runE2eProbeOnce` the SACK closure is never invoked, and for every standard method except
    `syn_socket` the probe is exactly the SYN closure's outcome. -/
theorem c20_e2e_forced_syn (m : Method) (syn sack sock : Out) :
    (fallback (e2eMethod true m) syn sack sock).2.sack = 0 ∧
    (m = .empty ∨ m = .syn ∨ m = .sack ∨ m = .preferSack →
      fallback (e2eMethod true m) syn sack sock = (syn, { syn := 1 })) := by
  cases m <;> simp [e2eMethod, fallback]

/-- The override applies to TCP only and leaves every other method string untouched. -/
theorem c20_e2e_override_scope (m : Method) :
    e2eMethod false m = m ∧ (m ≠ .sack → m ≠ .preferSack → e2eMethod true m = m) := by
  cases m <;> simp [e2eMethod]

/-- An unknown method is rejected with an error and nothing is attempted. -/
theorem c20_unknown_method_rejected (syn sack sock : Out) :
    fallback .other syn sack sock = (.err [.msg tagUnexpected], {}) := by
  simp [fallback]

/-- Which real SACK failures count as "unsupported": exactly the capability failures of the
    property (cannot connect, SYN-ACK without SACK-permitted, ACK without SACK blocks, platform
    cannot hold the second socket); handshake timeout, filter/send/read faults, address mismatch
    and every other exit are fatal. -/
theorem c20_sack_classification (f : SackFailure) : sackUnsupported f = isCapability f := by
  cases f <;> rfl

/-- Composition: with the real SACK closure, `prefer_sack` produces a SYN trace exactly when SACK is
    unavailable for the target; every other failure `f` is reported (wrapped), never masked. -/
theorem c20_prefer_capability (syn sock : Out) (r : Nat) (f? : Option SackFailure) :
    ((fallback .preferSack syn (sackOut r f?) sock).2.syn = 1 ↔ ∃ f, f? = some f ∧ isCapability f = true) ∧
    (∀ f, f? = some f → isCapability f = false →
      fallback .preferSack syn (sackOut r f?) sock = (.err (.msg tagFatal :: sackChain f), { sack := 1 })) := by
  cases f? with
  | none => simp [sackOut, fallback]
  | some f =>
    have hc := c20_sack_classification f
    unfold sackUnsupported at hc
    cases hk : isCapability f <;> simp [sackOut, fallback, hc, hk]

/-- The executable policy predicate evaluated by the harness on the implementation's observations
    holds of the model for all methods, outcomes and chains. -/
theorem c20_spec_holds (m : Method) (syn sack sock : Out) :
    policyOK m syn sack sock (fallback m syn sack sock).1 (fallback m syn sack sock).2 = true := by
  cases m with
  | preferSack =>
    cases sack with
    | ok r => simp [policyOK, fallback, once, never, unsupported]
    | err c =>
      by_cases h : hasNS c = true
      · simp [policyOK, fallback, once, never, unsupported, h]
      · have h' : hasNS c = false := by simpa using h
        have hs : c.isSuffixOf (Layer.msg tagFatal :: c) = true :=
          List.isSuffixOf_iff_suffix.mpr (List.suffix_cons _ _)
        have hn : hasNS (Layer.msg tagFatal :: c) = false := h'
        simp [policyOK, fallback, once, never, unsupported, h', hs, hn]
  | _ => simp [policyOK, fallback, once, never]

/-- non-vacuity: `sackChain .noSackPermitted` (NotSupported four layers deep) → fallback;
    `sackChain .handshakeTimeout` (no NotSupported layer) → fatal, wrapped once -/
example :
    fallback .preferSack (.ok 7) (.err [.msg 10, .msg 21, .msg 25, .notSupported, .msg 27]) (.ok 9)
      = (.ok 7, { sack := 1, syn := 1 }) := by decide
example :
    fallback .preferSack (.ok 7) (.err [.msg 10, .msg 21, .msg 23]) (.ok 9)
      = (.err [.msg 1, .msg 10, .msg 21, .msg 23], { sack := 1 }) := by decide
example : fallback (e2eMethod true .preferSack) (.ok 7) (.ok 8) (.ok 9) = (.ok 7, { syn := 1 }) := by decide
example : sackUnsupported .handshakeTimeout = false ∧ sackUnsupported .dial = true := by decide

#print axioms c20_sack_never_masked
#print axioms c20_prefer_iff_unsupported
#print axioms c20_prefer_any_depth
#print axioms c20_other_failure_reported
#print axioms c20_prefer_success
#print axioms c20_syn_never_dials
#print axioms c20_e2e_forced_syn
#print axioms c20_e2e_override_scope
#print axioms c20_unknown_method_rejected
#print axioms c20_sack_classification
#print axioms c20_prefer_capability
#print axioms c20_spec_holds
end TRV.Props.C20
