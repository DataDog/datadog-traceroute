import TRV.Proofs.Handshake
/-!
# C11 / C20 — the SACK handshake adopts only its own connection's SYN-ACK

While `ReadHandshake` runs, the capture filter admits every SYN-ACK that reaches the machine — in
particular those of other SACK traceroutes running at the same time, to the same target and port.
The theorems are over `TRV.Drv.hsRead` (tied to the real `ReadHandshake` by the `handshake` correspondence stream).
-/
namespace TRV.Props.C11Handshake
open TRV TRV.Wire TRV.Drv TRV.Proofs

/-- the sequence/acknowledgement base `ReadHandshake` adopts was read off a SYN-ACK from the target's
    address and port TO THIS RUN'S OWN local address and port -/
theorem c11_handshake_adopts_own_connection {localA target : Bytes} {lport tport : Nat} {pkts : List Bytes}
    {isn iack : Nat} {ts : Option (Nat × Nat)}
    (h : hsRead localA target lport tport pkts = .done isn iack ts) :
    ∃ p ∈ pkts, ∃ t, OwnSynAck localA target lport tport p t ∧ isn = t.ack ∧ iack = (t.seq + 1) % 4294967296 := by
  obtain ⟨p, hp, t, hown, ho⟩ := hsRead_own h (by simp) (by simp)
  exact ⟨p, hp, t, hown, (hsVerdict_spec ho).1, (hsVerdict_spec ho).2.1⟩

/-- packets that are not this run's own SYN-ACK (other connections' SYN-ACKs, whichever of the four
    tuple components differs; non-SYN-ACK segments; anything else but a zero-length read) leave the
    outcome unchanged when captured before the rest -/
theorem c11_handshake_foreign_invisible {localA target : Bytes} {lport tport : Nat} (pre post : List Bytes)
    (h : ∀ q ∈ pre, q ≠ [] ∧ ∀ t, ¬ OwnSynAck localA target lport tport q t) :
    hsRead localA target lport tport (pre ++ post) = hsRead localA target lport tport post :=
  hsRead_append_skip pre post (fun q hq => hsRecv_foreign (h q hq).1 (h q hq).2)

/-- a TCP segment whose destination port is not this run's local port (the SYN-ACK of a concurrent
    run to the same target), or whose source port / addresses differ, is not "own" -/
theorem c11_handshake_other_tuple_not_own {localA target : Bytes} {lport tport : Nat} {pkt : Bytes} {l3 : L3} {t : TCP}
    (hp : parse (pkt.take bufSize) = some (l3, .tcp t))
    (hd : t.dport ≠ lport ∨ t.sport ≠ tport ∨ l3.src ≠ target ∨ l3.dst ≠ localA) :
    ∀ t', ¬ OwnSynAck localA target lport tport pkt t' := by
  rintro t' ⟨l3', hp', h1, h2, h3, h4, _, _⟩
  cases hp.symm.trans hp'
  rcases hd with h | h | h | h
  · exact h h4
  · exact h h3
  · exact h h1
  · exact h h2

/-- "not supported" is reported only for an own SYN-ACK without a SACK-permitted option (kind 4) -/
theorem c20_handshake_not_supported_only_without_sack_permitted {localA target : Bytes} {lport tport : Nat} {pkts : List Bytes}
    (h : hsRead localA target lport tport pkts = .notSupported) :
    ∃ p ∈ pkts, ∃ t, OwnSynAck localA target lport tport p t ∧ ∀ d, (4, d) ∉ t.opts := by
  obtain ⟨p, hp, t, hown, ho⟩ := hsRead_own h (by simp) (by simp)
  exact ⟨p, hp, t, hown, hsVerdict_spec ho⟩

/-- a handshake only completes on an own SYN-ACK that carries the SACK-permitted option -/
theorem c20_handshake_done_has_sack_permitted {localA target : Bytes} {lport tport : Nat} {pkts : List Bytes}
    {isn iack : Nat} {ts : Option (Nat × Nat)}
    (h : hsRead localA target lport tport pkts = .done isn iack ts) :
    ∃ p ∈ pkts, ∃ t, OwnSynAck localA target lport tport p t ∧ ∃ d, (4, d) ∈ t.opts := by
  obtain ⟨p, hp, t, hown, ho⟩ := hsRead_own h (by simp) (by simp)
  exact ⟨p, hp, t, hown, (hsVerdict_spec ho).2.2⟩

/-- a TCP segment from 198.51.100.9:443 to 192.0.2.2:`dport` with the options of the SYN-ACK Linux
    sends (MSS, SACK-permitted, timestamps, NOP, window scale) -/
def synack (dport : Nat) (flags : Nat) : Bytes :=
  ([0x45,0,0,0x3c, 0,0,0x40,0, 0x40,6,0,0, 198,51,100,9, 192,0,2,2,
    0x01,0xbb, dport / 256, dport % 256, 1,2,3,4, 0x0a,0x0b,0x0c,0x0d, 0xa0, flags, 0xff,0xff, 0,0, 0,0,
    2,4,5,0xb4, 4,2, 8,10,0,0,0,1,0,0,0,2, 1, 3,3,7] : List Nat).map byte

/-- non-vacuity (kernel evaluation): the SYN-ACK to port 50000 completes the handshake of the run that
    owns local port 50000 — also when the SYN-ACK of a concurrent run (local port 50001) to the same
    target and a plain ACK were captured first — and is skipped by the run that owns port 50001 -/
example :
    hsRead [192,0,2,2] [198,51,100,9] 50000 443 [synack 50001 0x12, synack 50000 0x10, synack 50000 0x12] =
      .done 0x0a0b0c0d 0x01020305 (some (52, 1)) ∧
    hsRead [192,0,2,2] [198,51,100,9] 50001 443 [synack 50000 0x12] = .timeout := by decide +kernel

#print axioms c11_handshake_adopts_own_connection
#print axioms c11_handshake_foreign_invisible
#print axioms c11_handshake_other_tuple_not_own
#print axioms c20_handshake_not_supported_only_without_sack_permitted
#print axioms c20_handshake_done_has_sack_permitted
end TRV.Props.C11Handshake
