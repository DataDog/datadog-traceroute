import TRV.Proofs.Net
/-!
# C13 — Linux kernel conformance: real routers, real sockets, true path (partial)

The theorems are about the abstract network `TRV.Net` (Linux-like forwarding: TTL decrement per
router, time-exceeded from the router where the TTL expires unless it is silent, the
destination's protocol-specific answer for every probe that reaches it) composed with the *existing*
engine models `Engine.parallelRun` / `Engine.serialRun` and the TCP method policy `Policy.fallback`.
The kernel itself is not modelled: it is sampled by `harness/corr/c13_test.go` (network-namespace
chains), which compares the real CLI's output with `expectedHops` for the same topology.

Scope of the quantifiers: every number of routers `N ≥ 0`, every silent subset, every address
assignment in which no router shares the destination's address, every `1 ≤ min ≤ max` (the Go code
restricts TTLs to `≤ 255`; nothing here depends on that bound), every arrival order of the replies —
and every duplication of replies and every amount of interleaved retryable noise —, every point
`last` at which the sender stopped once the destination had been reached, every timing in which probes
are sent in TTL order and a reply is delivered after its probe was sent, and for SACK every order in
which the probes reach the destination (`low`).
-/
namespace TRV.Props.C13
open TRV TRV.Engine TRV.Net TRV.Spec.Net TRV.Proofs.Net

/-- Linux-like forwarding, spelled out: a probe sent with TTL `t ≤ N` expires at router `t`, which
    answers with time-exceeded from its own address unless it is silent; a probe sent with TTL
    `≥ N+1` reaches the destination and gets the destination's answer; TTL 0 gets nothing. -/
theorem c13_respond_linux (n : Net) (v : Variant) :
    (∀ t, 1 ≤ t → t ≤ n.routers.length → ∃ r, n.routers[t - 1]? = some r ∧
        respond n v t = if r.silent then none else some (.timeExceeded r.addr)) ∧
    (∀ t, n.routers.length + 1 ≤ t → respond n v t = some (destReply n.dest v)) ∧
    respond n v 0 = none := by
  refine ⟨fun t h1 h2 => ?_, fun t ht => forward_dest _ ht, ?_⟩
  · obtain ⟨r, hr⟩ := router_at h1 h2
    exact ⟨r, hr, forward_router _ h1 hr⟩
  · exact forward_zero ..

/-- **Parallel engine (ICMP, UDP, SACK).**  (The statement holds for the reply rule of every variant
    `v`; the code runs the parallel engine for these three.)  Let the probes `min..last` have been sent (`last = max`,
    or the sender stopped early, which it only does after the destination answered: `destTTL ≤ last`),
    and let the receiver have consumed `outs`: any list of acceptances and retryable outcomes whose
    acceptances are — as a set — exactly the replies the network produces for those probes (so: in
    any order, each any number of times).  Then the engine succeeds, `ToHops` succeeds, and the hop
    list is exactly the reference list: router `t`'s address for each probed `t ≤ N` (empty where
    silent), then the destination at the first probed TTL that reaches it, marked destination, nothing
    after it; every RTT is non-negative. -/
theorem c13_path_trace_parallel (n : Net) (v : Variant) (low : Nat → Nat) (tm : Timing)
    (min max last : Nat) (outs : List ROut)
    (hwf : ∀ r ∈ n.routers, r.addr ≠ n.dest.addr)
    (hsack : v = .sack → n.dest.sackEnabled = true)
    (hlow : v = .sack → LowOK n min low)
    (htm : tm.OK)
    (h1 : 1 ≤ min) (h2 : min ≤ last) (h3 : last ≤ max)
    (hsent : last = max ∨ destTTL n min ≤ last)
    (hclean : ∀ o ∈ outs, o = .retry ∨ ∃ p, o = .accept p)
    (hmem : ∀ p, p ∈ accepted outs ↔ p ∈ replies n v low tm min last) :
    ∃ r hops, parallelRun min max true outs false false = .ok r ∧ toHops min r = some hops ∧
      hops.map erase = expectedHops n min max ∧ ∀ h ∈ hops, 0 ≤ h.rtt :=
  parallel_trace
    { wf := hwf, sackOn := hsack, lowOK := hlow, timing := htm, min1 := h1, minLast := h2,
      lastMax := h3, sentAll := hsent } hclean hmem

/-- … in particular for every permutation of the replies (every arrival order). -/
theorem c13_path_trace_parallel_perm (n : Net) (v : Variant) (low : Nat → Nat) (tm : Timing)
    (min max last : Nat) (σ : List Probe)
    (hwf : ∀ r ∈ n.routers, r.addr ≠ n.dest.addr)
    (hsack : v = .sack → n.dest.sackEnabled = true)
    (hlow : v = .sack → LowOK n min low)
    (htm : tm.OK)
    (h1 : 1 ≤ min) (h2 : min ≤ last) (h3 : last ≤ max)
    (hsent : last = max ∨ destTTL n min ≤ last)
    (hperm : σ.Perm (replies n v low tm min last)) :
    ∃ r hops, parallelRun min max true (σ.map .accept) false false = .ok r ∧ toHops min r = some hops ∧
      hops.map erase = expectedHops n min max ∧ ∀ h ∈ hops, 0 ≤ h.rtt := by
  apply c13_path_trace_parallel n v low tm min max last _ hwf hsack hlow htm h1 h2 h3 hsent
  · intro o ho
    obtain ⟨p, _, rfl⟩ := List.mem_map.mp ho
    exact Or.inr ⟨p, rfl⟩
  · intro p; rw [Proofs.accepted_map_accept]; exact hperm.mem_iff

/-- **Serial engine (TCP SYN, open or closed port).**  One window per TTL from `min`, each with any
    number of retryable outcomes before the reply (or only those, where the router is silent and the
    window times out), ending with the window of the first TTL that reaches the destination; whatever
    windows `extra` might follow are never consumed.  The engine succeeds and the hop list is exactly
    the reference list, RTTs non-negative. -/
theorem c13_path_trace_serial (n : Net) (tm : Timing) (noise : Nat → Nat) (min max : Nat)
    (extra : List (List ROut))
    (hwf : ∀ r ∈ n.routers, r.addr ≠ n.dest.addr)
    (htm : tm.OK)
    (h1 : 1 ≤ min) (h2 : min ≤ max)
    (hextra : max < destTTL n min → extra = []) :
    ∃ r hops, serialRun min max (synWindows n tm noise min max ++ extra) false false = .ok r ∧
      toHops min r = some hops ∧ hops.map erase = expectedHops n min max ∧ ∀ h ∈ hops, 0 ≤ h.rtt :=
  serial_trace hwf htm h1 h2 extra hextra

/-- **The reference list says what the property says**: consecutive TTLs from `min`; every entry
    marked destination is the last entry, carries the destination's address and sits at the first
    probed TTL that reaches the destination; if that TTL is within `max` the list does end with it;
    every entry before it is the corresponding router's address, or empty where that router is
    silent. -/
theorem c13_expected_shape (n : Net) (min max : Nat) (h1 : 1 ≤ min) :
    (expectedHops n min max).length = Nat.min (destTTL n min) max + 1 - min ∧
    (∀ i h, (expectedHops n min max)[i]? = some h → h.ttl = min + i) ∧
    (∀ i h, (expectedHops n min max)[i]? = some h → h.dest = true →
        i + 1 = (expectedHops n min max).length ∧ h.ip = n.dest.addr ∧ h.ttl = destTTL n min) ∧
    (destTTL n min ≤ max → (expectedHops n min max).getLast? = some (destHop n (destTTL n min))) ∧
    (∀ i h, (expectedHops n min max)[i]? = some h → h.dest = false →
        ∃ r, n.routers[min + i - 1]? = some r ∧ h.ip = if r.silent then [] else r.addr) := by
  refine ⟨expectedHops_length n min max, ?_, ?_, ?_, ?_⟩
  · intro i h hi
    rcases expectedHops_entry hi with ⟨_, rfl⟩ | ⟨hd, _, rfl⟩
    · exact routerHop_ttl ..
    · exact hd.symm
  · intro i h hi hd
    rcases expectedHops_entry hi with ⟨_, rfl⟩ | ⟨hid, hdm, rfl⟩
    · rw [routerHop_dest] at hd; cases hd
    · refine ⟨?_, rfl, rfl⟩
      rw [expectedHops_length, lastTTL_eq_dest hdm]; omega
  · intro hd
    simp [expectedHops, hd]
  · intro i h hi hd
    rcases expectedHops_entry hi with ⟨hlt, rfl⟩ | ⟨_, _, rfl⟩
    · have := @destTTL_le n min (min + i)
      obtain ⟨r, hr⟩ := router_at (n := n) (t := min + i) (by omega) (by omega)
      exact ⟨r, hr, by simp [routerHop, hr]⟩
    · cases hd

/-- **Closed port ⇒ reached via RST.**  On a closed TCP port every SYN probe that reaches the
    destination is answered with an RST from the destination's address, the driver marks it
    destination, and so the SYN trace is the full reference list — ending with the destination
    whenever its TTL is within `max`.  (The SACK attempt cannot connect: see `c13_no_sack`.) -/
theorem c13_closed_port_reached (n : Net) (tm : Timing) (noise : Nat → Nat) (min max : Nat)
    (hclosed : n.dest.port = .closed)
    (hwf : ∀ r ∈ n.routers, r.addr ≠ n.dest.addr) (htm : tm.OK) (h1 : 1 ≤ min) (h2 : min ≤ max) :
    (∀ t, n.routers.length + 1 ≤ t → respond n .tcpSyn t = some (.rst n.dest.addr) ∧
        seenAt n .tcpSyn id tm t =
          some (.probe { ttl := t, ip := n.dest.addr, rtt := rttOf tm t t, dest := true })) ∧
    (∃ r hops, serialRun min max (synWindows n tm noise min max) false false = .ok r ∧
        toHops min r = some hops ∧ hops.map erase = expectedHops n min max ∧ (∀ h ∈ hops, 0 ≤ h.rtt) ∧
        (destTTL n min ≤ max → (hops.map erase).getLast? = some (destHop n (destTTL n min)))) := by
  refine ⟨?_, ?_⟩
  · intro t ht
    have hr : respond n .tcpSyn t = some (.rst n.dest.addr) := by
      unfold respond; rw [forward_dest _ ht]; simp [destReply, hclosed]
    exact ⟨hr, seenAt_dest nofun ht⟩
  · obtain ⟨r, hops, a, b, c, d⟩ := serial_trace (noise := noise) hwf htm h1 h2 [] (fun _ => rfl)
    rw [List.append_nil] at a
    obtain ⟨-, -, -, hlast, -⟩ := c13_expected_shape n min max h1
    exact ⟨r, hops, a, b, c, d, fun hd => by rw [c]; exact hlast hd⟩

/-- **No SACK at the destination ⇒ `sack` fails, `prefer_sack` falls back.**  For a destination whose
    port is closed (cannot connect) or that has SACK disabled (its SYN-ACK carries no SACK-permitted):
    the SACK attempt ends in a `NotSupportedError`; with method `sack` the CLI reports that error (no
    trace); with `prefer_sack` it reports the SYN trace — which is the reference list by
    `c13_path_trace_serial`.  And should the probes run all the same against a SACK-disabled
    destination, every probe that reaches it is answered by an ACK without SACK blocks, the driver
    returns `NotSupported`, and the engine fails (never a trace) as soon as the receiver consumes one. -/
theorem c13_no_sack (n : Net) (hno : n.dest.port = .closed ∨ n.dest.sackEnabled = false) :
    (∃ f, sackHandshake n = some f ∧ Policy.isCapability f = true) ∧
    (∃ c, reported n (.tcp .sack) = .error c ∧ Policy.hasNS c = true) ∧
    reported n (.tcp .preferSack) = .trace .tcpSyn ∧
    (n.dest.sackEnabled = false → ∀ (low : Nat → Nat) (tm : Timing) (min max : Nat) (t : Nat),
        n.routers.length + 1 ≤ t →
        seenAt n .sack low tm t = some .notSupported ∧
        ∀ (pre post : List ROut), (∀ o ∈ pre, o = .retry ∨ ∃ p, o = .accept p) →
          (∀ p ∈ accepted pre, validProbe min max p = true) →
          parallelRun min max true (pre ++ outAt n .sack low tm t ++ post) false false
            = .error .recvFailed ∨
          parallelRun min max true (pre ++ outAt n .sack low tm t ++ post) false false
            = .error .invalidParams) := by
  have hhs : sackHandshake n = some .dial ∨ sackHandshake n = some .noSackPermitted := by
    unfold sackHandshake
    rcases hno with h | h
    · simp [h]
    · cases n.dest.port <;> simp [h]
  -- with the handshake's outcome known, what is reported is a closed term
  refine ⟨?_, ?_, ?_, ?_⟩
  · rcases hhs with h | h <;> exact ⟨_, h, rfl⟩
  · rcases hhs with h | h <;> exact ⟨_, by simp only [reported, h]; rfl, rfl⟩
  · rcases hhs with h | h <;> (simp only [reported, h]; rfl)
  · intro hs low tm min max t ht
    refine ⟨seenAt_plainAck hs ht, fun pre post hc hv => ?_⟩
    have hloop := Proofs.recvLoop_clean (.fatal :: post) pre emptySlots hc hv
    rw [outAt_plainAck hs ht, List.append_assoc]
    unfold parallelRun
    by_cases hvp : validParams min max = true
    · left; simp [hvp, hloop, recvLoop]
    · right; simp [hvp]

/-- **SACK available ⇒ both `sack` and `prefer_sack` report the SACK trace** (which is the reference
    list by `c13_path_trace_parallel` with `v = sack`); `syn` and the default method report the SYN
    trace whatever the destination. -/
theorem c13_sack_supported (n : Net) :
    (n.dest.port = .opened → n.dest.sackEnabled = true →
      reported n (.tcp .sack) = .trace .sack ∧ reported n (.tcp .preferSack) = .trace .sack) ∧
    reported n (.tcp .syn) = .trace .tcpSyn ∧ reported n (.tcp .empty) = .trace .tcpSyn ∧
    reported n .icmp = .trace .icmp ∧ reported n .udp = .trace .udp := by
  refine ⟨fun hp hs => ?_, rfl, rfl, rfl, rfl⟩
  have h : sackHandshake n = none := by simp [sackHandshake, hp, hs]
  constructor <;> (simp only [reported, h]; rfl)

/-- **The model the oracle runs** (`Net.cli`: protocol switch, method policy, engine model on the
    canonical arrival order) returns the reference list for all five variants whenever a trace is due,
    and `notSupported` for method `sack` when SACK is unavailable. -/
theorem c13_cli (n : Net) (p : Proto) (min max : Nat)
    (hwf : ∀ r ∈ n.routers, r.addr ≠ n.dest.addr) (h1 : 1 ≤ min) (h2 : min ≤ max)
    (hp : p = .icmp ∨ p = .udp ∨ p = .tcp .syn ∨ p = .tcp .sack ∨ p = .tcp .preferSack) :
    (p = .tcp .sack ∧ (n.dest.port = .closed ∨ n.dest.sackEnabled = false) ∧
        cli n p min max = .notSupported) ∨
    (∃ hops, cli n p min max = .hops hops ∧ traceOK n min max hops = true) := by
  have hok : ∀ v, (v = .sack → n.dest.sackEnabled = true) → reported n p = .trace v →
      ∃ hops, cli n p min max = .hops hops ∧ traceOK n min max hops = true := by
    intro v hv hr
    obtain ⟨hops, a, b, c⟩ := runEngine_spec (v := v) hwf hv h1 h2
    refine ⟨hops, by simp [cli, hr, a], ?_⟩
    simp only [traceOK, Bool.and_eq_true, beq_iff_eq, List.all_eq_true, decide_eq_true_eq]
    exact ⟨b, c⟩
  have hsup := c13_sack_supported n
  have hcap : (n.dest.port = .closed ∨ n.dest.sackEnabled = false) ∨
      n.dest.port = .opened ∧ n.dest.sackEnabled = true := by
    cases n.dest.port <;> cases n.dest.sackEnabled <;> simp
  rcases hp with rfl | rfl | rfl | rfl | rfl
  · exact Or.inr (hok .icmp nofun rfl)
  · exact Or.inr (hok .udp nofun rfl)
  · exact Or.inr (hok .tcpSyn nofun hsup.2.1)
  · rcases hcap with hno | ⟨hopen, hs⟩
    · obtain ⟨_, ⟨c, hc, hns⟩, _⟩ := c13_no_sack n hno
      exact Or.inl ⟨rfl, hno, by simp [cli, hc, hns]⟩
    · exact Or.inr (hok .sack (fun _ => hs) (hsup.1 hopen hs).1)
  · rcases hcap with hno | ⟨hopen, hs⟩
    · exact Or.inr (hok .tcpSyn nofun (c13_no_sack n hno).2.2.1)
    · exact Or.inr (hok .sack (fun _ => hs) (hsup.1 hopen hs).2)

/-! ## Non-vacuity: a three-router chain with router 2 silent -/

private def r1 : Router := { addr := [10, 1, 0, 2], silent := false }
private def r2 : Router := { addr := [10, 1, 1, 2], silent := true }
private def r3 : Router := { addr := [10, 1, 2, 2], silent := false }
private def net3 (p : PortState) (s : Bool) : Net :=
  { routers := [r1, r2, r3], dest := { addr := [10, 1, 3, 2], port := p, sackEnabled := s } }

/-- ICMP, replies consumed in reverse order with noise and a duplicate: routers 1 and 3, hop 2 empty,
    destination at 4 and nothing after it although probes 5 and 6 were answered too -/
example :
    let n := net3 .opened true
    let σ := (replies n .icmp id oracleTiming 1 6).reverse
    (parallelRun 1 6 true (.retry :: σ.map .accept ++ [.retry] ++ σ.map .accept) false false).toOption.bind
        (fun r => (toHops 1 r).map (·.map erase))
      = some [⟨1, [10, 1, 0, 2], false⟩, ⟨2, [], false⟩, ⟨3, [10, 1, 2, 2], false⟩, ⟨4, [10, 1, 3, 2], true⟩] ∧
    expectedHops n 1 6
      = [⟨1, [10, 1, 0, 2], false⟩, ⟨2, [], false⟩, ⟨3, [10, 1, 2, 2], false⟩, ⟨4, [10, 1, 3, 2], true⟩] := by
  decide

/-- first TTL 3, last TTL 3: only router 3; first TTL 5 (beyond the destination): the destination at 5 -/
example : expectedHops (net3 .opened true) 3 3 = [⟨3, [10, 1, 2, 2], false⟩] ∧
    expectedHops (net3 .opened true) 5 9 = [⟨5, [10, 1, 3, 2], true⟩] := by decide

/-- closed port: SYN trace reaches the destination via RST; `sack` is refused as unsupported,
    `prefer_sack` yields the SYN trace; SACK on an open, SACK-enabled port yields the trace -/
example :
    (match cli (net3 .closed true) (.tcp .syn) 1 6 with
      | .hops hs => hs.map erase | _ => []) = expectedHops (net3 .closed true) 1 6 ∧
    respond (net3 .closed true) .tcpSyn 4 = some (.rst [10, 1, 3, 2]) ∧
    cli (net3 .closed true) (.tcp .sack) 1 6 = .notSupported ∧
    cli (net3 .opened false) (.tcp .sack) 1 6 = .notSupported ∧
    cli (net3 .opened false) (.tcp .preferSack) 1 6 = cli (net3 .opened false) (.tcp .syn) 1 6 ∧
    (match cli (net3 .opened true) (.tcp .sack) 2 6 with
      | .hops hs => hs.map erase | _ => []) = expectedHops (net3 .opened true) 2 6 := by
  decide

#print axioms c13_respond_linux
#print axioms c13_path_trace_parallel
#print axioms c13_path_trace_parallel_perm
#print axioms c13_path_trace_serial
#print axioms c13_expected_shape
#print axioms c13_closed_port_reached
#print axioms c13_no_sack
#print axioms c13_sack_supported
#print axioms c13_cli
end TRV.Props.C13
