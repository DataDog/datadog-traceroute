import TRV.Proofs.Engine
import TRV.Proofs.EngineLTS
/-!
# C07 — Parallel merge is schedule-independent: first wins, destination overrides
-/
namespace TRV.Props.C07
open TRV.Engine TRV.Spec TRV.LTS TRV.Proofs

/-- The slot array after any sequence of accepted replies is exactly the two-rule spec: the
    earliest accepted reply for a TTL, except that a destination reply replaces a non-destination
    one.  All sequences, all lengths. -/
theorem c07_merge_eq_best (σ : List Probe) (t : Nat) : merge σ t = best σ t :=
  merge_eq_best σ t

/-- The value `TracerouteParallel` returns is a function of the accepted replies only: one slot per
    TTL from the first TTL to the lowest destination TTL (or the last TTL), each holding `best`.
    Retryable outcomes (noise) interleaved anywhere do not matter. -/
theorem c07_parallel_result {min max : Nat} {outs : List ROut} {r : List (Option Probe)}
    (h : parallelRun min max true outs false false = .ok r) :
    r = expected min max (accepted outs) :=
  (parallel_result h).1

/-- Schedule independence at the level of what the receiver consumed: two runs that accepted the
    same replies in the same order return the same slot list (hence the same hops), whatever else was received. -/
theorem c07_same_accepted_same_result {min max : Nat} {o₁ o₂ : List ROut} {r₁ r₂ : List (Option Probe)}
    (h₁ : parallelRun min max true o₁ false false = .ok r₁)
    (h₂ : parallelRun min max true o₂ false false = .ok r₂)
    (hσ : accepted o₁ = accepted o₂) : r₁ = r₂ := by
  rw [c07_parallel_result h₁, c07_parallel_result h₂, hσ]

/-- In every reachable state of the interleaving model (any order of sender checks, sends, receiver
    accepts/ignores, deadline), the slot array equals `merge` of the accepted sequence: it does not
    depend on how sending and receiving interleave or on when the writer was cancelled. -/
theorem c07_lts_slots {minT maxT : Nat} {s : St} (h : Reach minT maxT s) (t : Nat) :
    s.slots t = best s.sigma t := by
  rw [slots_eq_merge h]; exact merge_eq_best _ t

/-- Every reply the receiver accepted is reflected: its TTL's slot is filled, with that reply unless
    an earlier reply or a destination reply for the same TTL takes precedence under the two rules. -/
theorem c07_all_reflected (σ : List Probe) (p : Probe) (hp : p ∈ σ) :
    ∃ q, merge σ p.ttl = some q ∧ q ∈ σ ∧ q.ttl = p.ttl ∧ (p.dest = true → q.dest = true) :=
  all_reflected σ p hp

/-- non-vacuity: a concrete run with duplicates, a late destination override and noise -/
example :
    let a : Probe := { ttl := 1, ip := [10,0,0,1], rtt := 5, dest := false }
    let b : Probe := { ttl := 2, ip := [10,0,0,2], rtt := 9, dest := false }
    let b' : Probe := { ttl := 2, ip := [10,0,0,9], rtt := 11, dest := true }
    let c : Probe := { ttl := 3, ip := [10,0,0,9], rtt := 12, dest := true }
    parallelRun 1 5 true [.retry, .accept b, .accept a, .retry, .accept c, .accept b', .accept a] false false
      = .ok [some a, some b'] := by rfl

/-- no mixing: a filled slot of the parallel result holds ONE accepted reply in its entirety
    (address, RTT and destination mark together), and that reply is for this TTL -/
theorem c07_slot_is_accepted_reply (σ : List Probe) (t : Nat) (q : Probe) (h : merge σ t = some q) :
    q ∈ σ ∧ q.ttl = t := by
  rw [merge_eq_best] at h
  exact best_some h

/-- destination mark of a slot (C04 at the engine): the slot for TTL `t` carries the destination
    mark exactly when some accepted reply for `t` is a destination reply — and then the slot IS such
    a reply (its address and RTT are the destination reply's, never an earlier router's) -/
theorem c07_slot_dest_iff (σ : List Probe) (t : Nat) (q : Probe) (h : merge σ t = some q) :
    q.dest = true ↔ ∃ p ∈ σ, p.ttl = t ∧ p.dest = true := by
  have := best_isDest σ t
  rw [← merge_eq_best, h] at this
  simp [show q.dest = destAnswered σ t from this, destAnswered]

#print axioms c07_merge_eq_best
#print axioms c07_parallel_result
#print axioms c07_same_accepted_same_result
#print axioms c07_lts_slots
#print axioms c07_all_reflected
#print axioms c07_slot_is_accepted_reply
#print axioms c07_slot_dest_iff
end TRV.Props.C07
