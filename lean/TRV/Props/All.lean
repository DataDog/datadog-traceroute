-- every property module, one import per line, sorted; the modules a check builds are those its `checks.d/CNN.json` lists (`lean_modules`)
import TRV.Props.C01
import TRV.Props.C02
import TRV.Props.C02Hbh
import TRV.Props.C02Opts
import TRV.Props.C03
import TRV.Props.C04
import TRV.Props.C05
import TRV.Props.C06
import TRV.Props.C07
import TRV.Props.C08
import TRV.Props.C09
import TRV.Props.C10
import TRV.Props.C11
import TRV.Props.C11Handshake
import TRV.Props.C12
import TRV.Props.C12Compose
import TRV.Props.C13
import TRV.Props.C14
import TRV.Props.C15
import TRV.Props.C16
import TRV.Props.C16Pipeline
import TRV.Props.C17
import TRV.Props.C18
import TRV.Props.C19
import TRV.Props.C20
import TRV.Props.TieEngine
import TRV.Props.TieFilterSites
import TRV.Props.TieIcmp
import TRV.Props.TiePackets
import TRV.Props.TiePolicy
import TRV.Props.TieSack
import TRV.Props.TieTcp
import TRV.Props.TieUdp
