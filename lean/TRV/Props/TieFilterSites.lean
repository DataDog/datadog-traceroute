import TRV.Generated.Filters
/-!
# Textual pin of the tuple direction at the filter-installation sites

`c12_sites_config` compares the Go SOURCE TEXT of the `FilterConfig` fields at the two sites that
install the tuple filter with the expected text.  It is a pin on the shape of the source, like the
`Tie*` theorems: hoisting `tcpAddr.AddrPort()` into a local changes the text and not the behaviour
(`controls/benign-r-B05-b.diff`).  It therefore lives in a `Tie` module: when it alone breaks, `./check`
escalates the search (the compose and source streams run the REAL installed program against the real
drivers, so a swapped tuple loses every reply) and reports TIE-DRIFT instead of a violation if nothing
differs.
-/
namespace TRV.Props.TieFilterSites
open TRV TRV.Generated.Filters

/-- The direction of the tuple at the sites that install the tuple filter: `Src` is the target
    (address and destination port probed), `Dst` the local address and port — source and destination
    as they appear in a *reply*.  Pinned on the Go source text of the `FilterConfig` fields (a swap
    would make the filter pass the probes and hide the replies). -/
theorem c12_sites_config :
    (filterSites.filter (·.kind == .tcp)).map (fun s => (s.file, s.src, s.dst)) = [
      ("sack/traceroute_sack.go", "p.Target", "tcpAddr.AddrPort()"),
      ("tcp/tcp_traceroute.go", "netip.AddrPortFrom(targetAddr, t.DestPort)", "netip.AddrPortFrom(localAddr, port)")] := by
  rfl

#print axioms c12_sites_config

end TRV.Props.TieFilterSites
