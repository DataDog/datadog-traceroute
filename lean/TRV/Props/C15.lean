import TRV.Proofs.Multi
/-!
# C15 — Multi-query request is all-or-error with exact counts

`outs` lists the outcome of every requested run and e2e probe in request order; `cs` is the order in
which the calls actually completed — ANY permutation of `outs` (`cs.Perm outs`); `pub` is the outcome
of the public-IP goroutine.  All theorems hold for any number of runs and probes.
-/
namespace TRV.Props.C15
open TRV.Multi TRV.Spec.Multi TRV.Proofs.Multi

/-- The request succeeds exactly when every requested run and every e2e probe succeeded, whatever
    the completion order and whatever the public-IP outcome. -/
theorem c15_success_iff_all_ok {cs outs : List Completion} (hp : cs.Perm outs) (pub : PubIP) :
    (∃ r, aggregate cs pub = .ok r) ↔ allOk outs = true := by
  rw [aggregate_eq, ← allOk_perm hp]
  by_cases h : allOk cs = true <;> simp [h]

/-- On success the result holds exactly the requested number of runs and exactly the requested
    number of RTT samples (a probe that reached nothing is the sample `0`, it is still counted). -/
theorem c15_counts {cs outs : List Completion} (hp : cs.Perm outs) (pub : PubIP) {r : Results}
    (h : aggregate cs pub = .ok r) :
    r.runs.length = nRuns outs ∧ r.rtts.length = nProbes outs := by
  obtain ⟨hk, rfl⟩ := aggregate_ok h
  exact ⟨nRuns_perm hp ▸ okRuns_length_of_allOk cs hk,
    by rw [← samples_of_allOk cs hk, samples_length, nProbes_perm hp]⟩

/-- Nothing lost, nothing duplicated: on success the runs in the result are, as a multiset, exactly
    the results of the requested runs, and the samples are exactly the probes' samples — for every
    completion order. -/
theorem c15_no_loss_no_dup {cs outs : List Completion} (hp : cs.Perm outs) (pub : PubIP) {r : Results}
    (h : aggregate cs pub = .ok r) :
    r.runs.Perm (okRuns outs) ∧ r.rtts.Perm (okRtts outs) := by
  obtain ⟨_, rfl⟩ := aggregate_ok h
  exact ⟨hp.filterMap _, hp.filterMap _⟩

/-- If anything failed there is no result, and the joined error consists of every individual failure
    exactly once (as a multiset it IS the list of failures; in particular each failing call's error
    is a member, and its multiplicity equals the number of calls that failed with it). -/
theorem c15_errors_all_exposed {cs outs : List Completion} (hp : cs.Perm outs) (pub : PubIP)
    (hfail : allOk outs = false) :
    ∃ es, aggregate cs pub = .joined es ∧ es.Perm (failures outs) ∧
      (∀ e, es.count e = (failures outs).count e) ∧ (∀ r, aggregate cs pub ≠ .ok r) := by
  have hk : allOk cs = false := by rw [allOk_perm hp]; exact hfail
  have hperm : (failures cs).Perm (failures outs) := hp.filterMap _
  refine ⟨failures cs, ?_, hperm, fun e => hperm.count_eq e, ?_⟩
  · rw [aggregate_eq]; simp [hk]
  · intro r; rw [aggregate_eq]; simp [hk]

/-- The public-IP outcome never decides success or failure, never changes the runs, the samples or
    the joined error; it only fills `Source.PublicIP` when it succeeded. -/
theorem c15_pubip_never_fails (cs : List Completion) (pub : PubIP) :
    aggregate cs pub =
      match aggregate cs .off with
      | .ok r => .ok { r with publicIP := pubOf pub }
      | .joined es => .joined es := by
  rw [aggregate_eq, aggregate_eq]
  by_cases h : allOk cs = true <;> simp [h]

/-- The executable contract used by the harness on the implementation's output holds of the model
    for every completion order (ties the `Spec` predicate to the theorems above). -/
theorem c15_spec_holds {cs outs : List Completion} (hp : cs.Perm outs) (pub : PubIP) :
    allOrError outs (aggregate cs pub) = true := by
  by_cases hk : allOk outs = true
  · obtain ⟨r, hr⟩ := (c15_success_iff_all_ok hp pub).mpr hk
    have hc := c15_counts hp pub hr
    have hn := c15_no_loss_no_dup hp pub hr
    simp [hr, allOrError, hk, hc.1, hc.2, List.isPerm_iff, hn.1, hn.2]
  · have hk' : allOk outs = false := by simpa using hk
    obtain ⟨es, he, hperm, _, _⟩ := c15_errors_all_exposed hp pub hk'
    simp [he, allOrError, hk', List.isPerm_iff, hperm]

/-- non-vacuity: three runs and two probes completing out of order, all succeed -/
example :
    aggregate [.probe 1 (.ok 7), .run 2 (.ok 30), .run 0 (.ok 10), .probe 0 (.ok 0), .run 1 (.ok 20)] (.ok 99)
      = .ok { runs := [30, 10, 20], rtts := [7, 0], publicIP := some 99 } := by decide

/-- non-vacuity: a failing run and a failing probe, public IP fine: no result, both errors, once each -/
example :
    aggregate [.probe 1 (.err 501), .run 2 (.ok 30), .run 0 (.err 500), .probe 0 (.ok 3)] (.ok 99)
      = .joined [501, 500] := by decide

/-- non-vacuity: public-IP failure alone does not fail the request -/
example : aggregate [.run 0 (.ok 10), .probe 0 (.ok 3)] .err
      = .ok { runs := [10], rtts := [3], publicIP := none } := by decide

#print axioms c15_success_iff_all_ok
#print axioms c15_counts
#print axioms c15_no_loss_no_dup
#print axioms c15_errors_all_exposed
#print axioms c15_pubip_never_fails
#print axioms c15_spec_holds
end TRV.Props.C15
