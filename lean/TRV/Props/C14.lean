import TRV.Proofs.Lockset
import TRV.Generated.Access
/-!
# C14 — No data races between sending, receiving and concurrent runs (partial)

What is proved: in the interleaving model of goroutines, mutexes, atomics, `go` and `Wait`, every
execution described by the access table is free of data races, for **any** number of threads,
object instances and steps and any schedule — provided the table passes the decidable discipline —
and the table the translator regenerates from the current Go source passes it
(`c14_table_disciplined`; `decide +kernel` is plain `decide` evaluated by the kernel only, no
compiler, no extra axiom: the elaborator's own evaluator exceeds its recursion limit on ~250 rows).

What is *not* proved (partial, see DESIGN §C14): that the table lists every access (syntactic
extraction, lexical lock sets, no alias analysis, library internals trusted) and that the real
threads are used as the roles say (one goroutine constructs a driver, runs `TracerouteParallel`
and closes it).  The race-detector harness (`harness/corr/c14_test.go`) searches for a witness
against exactly these assumptions.
-/
namespace TRV.Props.C14
open TRV.Sync TRV.Proofs.Lockset

/-- Lock hand-off (DESIGN B.8 on the full event type): in a well-formed history, if thread `t` owns
    mutex `m` after `es` and another thread `u` owns it after `fs ++ es`, then `fs` contains an
    acquire of `m` by `u` and, older than it, a release of `m` by `t`. -/
theorem c14_handoff {X M : Type} [DecidableEq M] (m : M) (t u : Tid) (hne : t ≠ u)
    (fs es : History X M) (hwf : WF (fs ++ es)) (ht : owner m es = some t)
    (hu : owner m (fs ++ es) = some u) :
    ∃ f1 f2, fs = f1 ++ Ev.acq u m :: f2 ∧ Ev.rel t m ∈ f2 :=
  handoff m t u hne fs es hwf ht hu

/-- Mutex core: two accesses by different threads that are both made while holding the same mutex
    are ordered by happens-before (program order, then the release→acquire edge of the hand-off,
    then program order). -/
theorem c14_common_mutex_orders {X M : Type} [DecidableEq M] {a b : Ev X M} {s₁ s₂ : History X M}
    {m : M} (hwf : WF s₂) (hs : (a :: s₁) <:+ s₂) (hacc : a.acc.isSome) (hne : a.tid ≠ b.tid)
    (ha : owner m s₁ = some a.tid) (hb : owner m s₂ = some b.tid) : HB (a :: s₁) (b :: s₂) :=
  lock_orders hwf hs hacc hne ha hb

/-- **Lockset soundness (full statement, with atomics and fork/join phases).**  If an access table
    is disciplined — every two rows on one location with a write-like one are both atomic, or share
    a mutex, or are ordered by phase (`init` → `mid` → `final`) or belong to one single-threaded
    role — then every execution the table describes is race free.  General in the number of threads,
    instances and steps. -/
theorem c14_lockset_sound {L K : Type} [DecidableEq L] [DecidableEq K] (tbl : List (Row L K))
    (hd : Disciplined tbl = true) : ∀ h, Exec tbl h → RaceFree h :=
  fun h hex => lockset_sound tbl hd h hex

/-- The access table **regenerated from the current source** is disciplined. -/
theorem c14_table_disciplined : Disciplined TRV.Generated.Access.table = true := by
  rw [disciplined_eq]; decide +kernel

/-- Hence: every execution of the repository's drivers, engines and allocators that the regenerated
    table describes is free of data races. -/
theorem c14_repo_race_free : ∀ h, Exec TRV.Generated.Access.table h → RaceFree h :=
  c14_lockset_sound _ c14_table_disciplined

/-! ## Non-vacuity (the demo table, history and `hist_exec` are in `TRV.Proofs.Lockset.Demo`) -/


/-- non-vacuity 1: the demo table is disciplined, the demo history is one of its executions, so the
    theorem applies to a history with real concurrency -/
example : Disciplined Demo.tbl = true ∧ Exec Demo.tbl Demo.hist ∧ RaceFree Demo.hist :=
  ⟨by decide, Demo.hist_exec, c14_lockset_sound Demo.tbl (by decide) _ Demo.hist_exec⟩

/-- non-vacuity 2: the discipline rejects the F7 shape (sender write / receiver read, no lock) and
    accepts it once both sides hold `mu` -/
example :
    Disciplined ([⟨"sendTimes", .run, .sender, .mid, .wr, [], false, "sack_driver.go:75"⟩,
                  ⟨"sendTimes", .run, .receiver, .mid, .rd, [], false, "sack_driver.go:158"⟩]
                  : List (Row String String)) = false ∧
    Disciplined ([⟨"sendTimes", .run, .sender, .mid, .wr, ["mu"], false, "sack_driver.go:75"⟩,
                  ⟨"sendTimes", .run, .receiver, .mid, .rd, ["mu"], false, "sack_driver.go:158"⟩]
                  : List (Row String String)) = true := by decide

/-- non-vacuity 3: `RaceFree` is not trivially true — two unsynchronised writes by different
    threads are a race -/
example : ¬ RaceFree ([.wr 2 ("x", 0) "b", .wr 1 ("x", 0) "a"] : History (String × Nat) (String × Nat)) := by
  intro h
  refine no_hb_adjacent (by rfl) (by rfl) (by decide)
    (h _ _ _ _ (List.suffix_refl _) (List.suffix_refl _) ?_)
  exact ⟨by decide, ("x", 0), .wr, "a", .wr, "b", rfl, rfl, Or.inl (by decide), by decide⟩

#print axioms c14_handoff
#print axioms c14_common_mutex_orders
#print axioms c14_lockset_sound
#print axioms c14_table_disciplined
#print axioms c14_repo_race_free
end TRV.Props.C14
