import TRV.Proofs.Result
/-!
# C17 — Private-hop redaction leaves no private address or derived data

`isPrivate` is the model of `net.IP.IsPrivate` (with `To4`), `removePrivate` of
`Results.RemovePrivateHops`, `pipeline` of the tail of `RunTraceroute` (enrich → normalize →
redact).  `PrivateRange`, `RedactedHop`, `Redacted` are the reference predicates of
`TRV.Spec.Result`.  `hopAt d i j` is the hop at run `i`, position `j`.

Scope, as the property states it: hop entries.  `TracerouteRun.Destination` (address and names) is
not a hop entry and is left alone by `RemovePrivateHops`.
-/
namespace TRV.Props.C17
open TRV TRV.Result TRV.ResSpec TRV.Proofs.Result

/-- `net.IP.IsPrivate` answers true exactly on the private ranges, for byte strings of every length:
    10/8, 172.16/12, 192.168/16 on the 32-bit value of a 4-byte address or of the 16-byte
    IPv4-mapped form; fc00::/7 on the 128-bit value of any other 16-byte address; false for every
    other length. -/
theorem c17_isPrivate_iff_range (ip : Bytes) : isPrivate ip = true ↔ PrivateRange ip :=
  isPrivate_iff_range ip

/-- Redaction: same number of runs and of hops per run, nothing but hop entries changes
    (`Redacted`), and position by position: the TTL is kept; an entry whose address is private
    becomes exactly the TTL-only placeholder (no address, RTT 0, not reachable, no names, not the
    destination); an entry whose address is not private is unchanged; no output entry carries a
    private address. -/
theorem c17_redact (d : Doc) :
    Redacted d (removePrivate d) ∧
    (removePrivate d).runs.length = d.runs.length ∧
    ∀ i j, (hopAt (removePrivate d) i j = none ↔ hopAt d i j = none) ∧
      ∀ h, hopAt d i j = some h →
        ∃ h', hopAt (removePrivate d) i j = some h' ∧ h'.ttl = h.ttl ∧
          (PrivateRange h.ip → h' = blank h.ttl) ∧ (¬ PrivateRange h.ip → h' = h) ∧
          ¬ PrivateRange h'.ip := by
  refine ⟨redacted d, runs_length_of_map (runsHops_removePrivate d), fun i j => ?_⟩
  rw [hopAt_removePrivate]
  exact ⟨by simp, fun h hh => ⟨redactHop h, by simp [hh], redactHop_spec h⟩⟩

/-- The placeholder carries nothing derived from the address. -/
theorem c17_blank_fields (ttl : Int) :
    (blank ttl).ip = [] ∧ (blank ttl).rtt = 0 ∧ (blank ttl).reachable = false ∧
    (blank ttl).names = [] ∧ (blank ttl).isDest = false ∧ (blank ttl).port = 0 ∧
    (blank ttl).icmpType = 0 ∧ (blank ttl).icmpCode = 0 := by
  simp [blank]

/-- Pipeline (`RunTraceroute` with `SkipPrivateHops`): whatever the resolver answered and whether or
    not reverse DNS ran, the output has a hop exactly where the input has one, with the same TTL;
    no output hop carries a private address; a hop whose address is private comes out as the
    TTL-only placeholder — so the names attached by enrichment and the `Reachable` flag set by
    normalisation *before* redaction do not survive; a hop whose address is not private is exactly
    what the pipeline without `SkipPrivateHops` produces. -/
theorem c17_pipeline_no_derived (rdns : Bool) (res : Resolver) (draws : List Nat) (d : Doc) (i j : Nat) :
    let o := pipeline rdns true res draws d
    (hopAt o i j = none ↔ hopAt d i j = none) ∧
    ∀ h, hopAt d i j = some h →
      ∃ h', hopAt o i j = some h' ∧ h'.ttl = h.ttl ∧ ¬ PrivateRange h'.ip ∧
        (PrivateRange h.ip → h' = blank h.ttl) ∧
        (¬ PrivateRange h.ip → hopAt (pipeline rdns false res draws d) i j = some h') := by
  intro o
  simp only [o]
  rw [pipeline_true, hopAt_removePrivate, hopAt_pipeline_false]
  refine ⟨by simp, fun h hh => ?_⟩
  have hs := redactHop_spec (preHop rdns res h)
  unfold RedactedHop at hs
  rw [preHop_ip, preHop_ttl] at hs
  obtain ⟨s1, s2, s3, s4⟩ := hs
  refine ⟨redactHop (preHop rdns res h), by simp [hh], s1, s4, s2, fun hn => ?_⟩
  rw [s3 hn]; simp [hh]

/-- With `SkipPrivateHops`, the output is the redaction of the output without it. -/
theorem c17_pipeline_redacted (rdns : Bool) (res : Resolver) (draws : List Nat) (d : Doc) :
    Redacted (pipeline rdns false res draws d) (pipeline rdns true res draws d) := by
  rw [pipeline_true]; exact redacted _

/-! non-vacuity: block boundaries, a mapped and a unique-local address, and a run through the
    pipeline in which the resolver names every address -/

example : isPrivate [10, 0, 0, 0] = true ∧ isPrivate [10, 255, 255, 255] = true ∧
    isPrivate [9, 255, 255, 255] = false ∧ isPrivate [11, 0, 0, 0] = false ∧
    isPrivate [172, 15, 255, 255] = false ∧ isPrivate [172, 16, 0, 0] = true ∧
    isPrivate [172, 31, 255, 255] = true ∧ isPrivate [172, 32, 0, 0] = false ∧
    isPrivate [192, 167, 255, 255] = false ∧ isPrivate [192, 168, 0, 0] = true ∧
    isPrivate [192, 168, 255, 255] = true ∧ isPrivate [192, 169, 0, 0] = false ∧
    isPrivate [0, 0, 0, 0, 0, 0, 0, 0, 0, 0, 0xff, 0xff, 192, 168, 1, 1] = true ∧
    isPrivate [0, 0, 0, 0, 0, 0, 0, 0, 0, 0, 0xff, 0xfe, 192, 168, 1, 1] = false ∧
    isPrivate [0xfb, 0xff, 0, 0, 0, 0, 0, 0, 0, 0, 0, 0, 0, 0, 0, 1] = false ∧
    isPrivate [0xfc, 0, 0, 0, 0, 0, 0, 0, 0, 0, 0, 0, 0, 0, 0, 0] = true ∧
    isPrivate [0xfd, 0xff, 0, 0, 0, 0, 0, 0, 0, 0, 0, 0, 0, 0, 0, 1] = true ∧
    isPrivate [0xfe, 0, 0, 0, 0, 0, 0, 0, 0, 0, 0, 0, 0, 0, 0, 1] = false ∧
    isPrivate [10, 0, 0] = false ∧ isPrivate [] = false := by decide

def exDoc : Doc :=
  { runs := [ { hops := [{ ttl := 1, ip := [192, 168, 1, 1], rtt := 3/2 },
                         { ttl := 2, ip := [0, 0, 0, 0, 0, 0, 0, 0, 0, 0, 0xff, 0xff, 10, 0, 0, 1], rtt := 2 },
                         { ttl := 3 },
                         { ttl := 4, ip := [0xfd, 0, 0, 0, 0, 0, 0, 0, 0, 0, 0, 0, 0, 0, 0, 5], rtt := 4 },
                         { ttl := 5, ip := [8, 8, 8, 8], rtt := 7, isDest := true }] } ] }

def exRes : Resolver := fun ip => some ["host-" ++ toHex ip]

example : (pipeline true true exRes [1, 2] exDoc).runs.map (·.hops) =
    [[ { ttl := 1 }, { ttl := 2 }, { ttl := 3 }, { ttl := 4 },
       { ttl := 5, ip := [8, 8, 8, 8], rtt := 7, isDest := true, reachable := true,
         names := ["host-08080808"] } ]] := by decide +kernel
/-- without the flag the names and addresses of the private hops are present -/
example : ((pipeline true false exRes [1, 2] exDoc).runs.map (·.hops.map (·.names))) =
    [[["host-c0a80101"], ["host-00000000000000000000ffff0a000001"], [],
      ["host-fd000000000000000000000000000005"], ["host-08080808"]]] := by decide +kernel

#print axioms c17_isPrivate_iff_range
#print axioms c17_redact
#print axioms c17_blank_fields
#print axioms c17_pipeline_no_derived
#print axioms c17_pipeline_redacted
end TRV.Props.C17
