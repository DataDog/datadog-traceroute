import TRV.Proofs.Complete
import TRV.Proofs.MinSack
/-!
# C02, byte level, IPv4 headers with options ("outer IP options" of the property text)

Each theorem is the options-carrying counterpart of a `c02_*_bytes` theorem of `Props/C02.lean`:
for EVERY outer header length `oihl ∈ 5..15` with ANY option bytes `oopts` the IPv4 decoder accepts,
and — for the ICMP-error forms — every quoted header length `qihl ∈ 5..15` with any accepted option
bytes `qopts` (a probe that picked up a record-route or router-alert option on the way, quoted back),
the real reply form is turned into the hop of its probe, with the responder's address, whatever the
other header fields, the checksums, and the bytes that follow the identifying ones (within the read
buffer: `hsize`, as in `Props/C02.lean`).
The option hypothesis `ip4OptsOK … = true` is exactly "gopacket's option loop does not return a decode
error" (the model of `IPv4.DecodeFromBytes`, tied by the matcher streams of C01/C02/C09 whose
catalogue carries option lists); `c02_opts_hyp_nops` / `c02_opts_hyp_eol` show that it holds for
NOP padding of every length and for an end-of-options byte followed by arbitrary bytes.
-/
namespace TRV.Props.C02Opts
open TRV TRV.Wire TRV.Build TRV.Drv TRV.Proofs

theorem c02_icmp4_te_bytes_opts {s : IcmpSt} {t : Nat} {p : Sent}
    {oihl qihl otos oid ottl ock code ick qtos qlen qid qff qttl qck ety ecode eck : Nat} {r rest4 oopts qopts extra : Bytes}
    (hl : s.cfg.localA.length = 4) (htg : s.cfg.target.length = 4) (hr : r.length = 4) (hrest : rest4.length = 4)
    (o1 : 5 ≤ oihl) (o2 : oihl ≤ 15) (o3 : oopts.length = oihl * 4 - 20) (o4 : ip4OptsOK (oihl * 4 - 20) oopts = true)
    (q1 : 5 ≤ qihl) (q2 : qihl ≤ 15) (q3 : qopts.length = qihl * 4 - 20) (q4 : ip4OptsOK (qihl * 4 - 20) qopts = true)
    (b1 : otos < 256) (b2 : oid < 65536) (b3 : ottl < 256) (b4 : code < 256)
    (b5 : qtos < 256) (b6 : qihl * 4 + 8 ≤ qlen) (b7 : qlen < 65536) (b8 : qid < 65536) (b9 : qff < 65536) (b10 : qttl < 256)
    (b11 : ety = 8 ∨ ety = 0) (b12 : ecode < 256) (b13 : s.cfg.echoId < 65536) (b14 : t < 65536)
    (hsize : oihl * 4 + 8 + (qihl * 4 + 8 + extra.length) ≤ 1024) (hlk : icmpLookup s t = some p) :
    icmpRecv s (icmpMsg4o oihl otos oid ottl ock r s.cfg.localA oopts 11 code ick rest4
        (rawHdr4o qihl qtos qlen qid qff qttl 1 qck s.cfg.localA s.cfg.target qopts ++
          (([byte ety, byte ecode] ++ be16 eck ++ be16 s.cfg.echoId ++ be16 t) ++ extra))) =
      .accept t r false p.time := by
  exact icmpRecv_of_accepts
    (parse_icmpMsg4o hr hl hrest ⟨o1, o2, o3, o4⟩ b1 b2 b3 (by decide) b4 (u16_beNat (by omega)) (u16_beNat (by omega))
      (by rw [quoted4_length hl htg ⟨q1, q2, q3, q4⟩ rfl]; exact hsize))
    (.te4 rfl (icmpInfo4_quote hl htg ⟨q1, q2, q3, q4⟩ rfl b5 b6 b7 b8 b9 b10 (by decide)) rfl rfl rfl
      (parseEcho4_q8 b11 b13 b14) hlk)

theorem c02_udp4_err_bytes_opts {s : UdpSt} {p : Sent}
    {oihl qihl otos oid ottl ock ty code ick qtos qlen qff qttl qck : Nat} {r rest4 w oopts qopts extra : Bytes}
    (hl : s.cfg.localA.length = 4) (htg : s.cfg.target.length = 4) (hr : r.length = 4) (hrest : rest4.length = 4)
    (hw : w.length = 4)
    (o1 : 5 ≤ oihl) (o2 : oihl ≤ 15) (o3 : oopts.length = oihl * 4 - 20) (o4 : ip4OptsOK (oihl * 4 - 20) oopts = true)
    (q1 : 5 ≤ qihl) (q2 : qihl ≤ 15) (q3 : qopts.length = qihl * 4 - 20) (q4 : ip4OptsOK (qihl * 4 - 20) qopts = true)
    (b1 : otos < 256) (b2 : oid < 65536) (b3 : ottl < 256) (b4 : code < 256) (hty : (ty = 11 ∧ code = 0) ∨ ty = 3)
    (b5 : qtos < 256) (b6 : qihl * 4 + 8 ≤ qlen) (b7 : qlen < 65536) (b8 : p.id < 65536) (b9 : qff < 65536) (b10 : qttl < 256)
    (b11 : s.cfg.lport < 65536) (b12 : s.cfg.tport < 65536)
    (hsize : oihl * 4 + 8 + (qihl * 4 + 8 + extra.length) ≤ 1024) (hf : s.sent.find? (·.id = p.id) = some p) :
    udpRecv s (icmpMsg4o oihl otos oid ottl ock r s.cfg.localA oopts ty code ick rest4
        (rawHdr4o qihl qtos qlen p.id qff qttl 17 qck s.cfg.localA s.cfg.target qopts ++
          ((be16 s.cfg.lport ++ be16 s.cfg.tport ++ w) ++ extra))) =
      .accept p.ttl r (decide (r = s.cfg.target)) p.time := by
  have hq8 : (be16 s.cfg.lport ++ be16 s.cfg.tport ++ w).length = 8 := by simp [be16, hw]
  exact udpRecv_of_accepts
    (parse_icmpMsg4o hr hl hrest ⟨o1, o2, o3, o4⟩ b1 b2 b3 (by omega) b4 (u16_beNat (by omega)) (u16_beNat (by omega))
      (by rw [quoted4_length hl htg ⟨q1, q2, q3, q4⟩ hq8]; exact hsize))
    (.err4 hty (icmpInfo4_quote hl htg ⟨q1, q2, q3, q4⟩ hq8 b5 b6 b7 b8 b9 b10 (by decide)) rfl
      (quotedPorts_q8 hw b11 b12) ⟨rfl, rfl⟩ (.inr ⟨rfl, rfl⟩) hf)

theorem c02_tcp_te_bytes_opts {s : TcpSt} {p : Sent}
    {oihl qihl otos oid ottl ock ick qtos qlen qff qttl qck : Nat} {r rest4 oopts qopts extra : Bytes}
    (hl : s.cfg.localA.length = 4) (htg : s.cfg.target.length = 4) (hr : r.length = 4) (hrest : rest4.length = 4)
    (o1 : 5 ≤ oihl) (o2 : oihl ≤ 15) (o3 : oopts.length = oihl * 4 - 20) (o4 : ip4OptsOK (oihl * 4 - 20) oopts = true)
    (q1 : 5 ≤ qihl) (q2 : qihl ≤ 15) (q3 : qopts.length = qihl * 4 - 20) (q4 : ip4OptsOK (qihl * 4 - 20) qopts = true)
    (b1 : otos < 256) (b2 : oid < 65536) (b3 : ottl < 256)
    (b5 : qtos < 256) (b6 : qihl * 4 + 8 ≤ qlen) (b7 : qlen < 65536) (b8 : p.id < 65536) (b9 : qff < 65536) (b10 : qttl < 256)
    (b11 : s.cfg.lport < 65536) (b12 : s.cfg.tport < 65536) (b13 : p.seq < 4294967296)
    (hsize : oihl * 4 + 8 + (qihl * 4 + 8 + extra.length) ≤ 1024)
    (hf : s.sent.find? (fun x => x.id = p.id ∧ x.seq = p.seq) = some p) :
    tcpRecv s (icmpMsg4o oihl otos oid ottl ock r s.cfg.localA oopts 11 0 ick rest4
        (rawHdr4o qihl qtos qlen p.id qff qttl 6 qck s.cfg.localA s.cfg.target qopts ++
          ((be16 s.cfg.lport ++ be16 s.cfg.tport ++ be32 p.seq) ++ extra))) =
      .accept p.ttl r false p.time := by
  exact tcpRecv_of_accepts
    (parse_icmpMsg4o hr hl hrest ⟨o1, o2, o3, o4⟩ b1 b2 b3 (by decide) (by decide) (u16_beNat (by omega)) (u16_beNat (by omega))
      (by rw [quoted4_length hl htg ⟨q1, q2, q3, q4⟩ rfl]; exact hsize))
    (.te ⟨rfl, rfl⟩ (icmpInfo4_quote hl htg ⟨q1, q2, q3, q4⟩ rfl b5 b6 b7 b8 b9 b10 (by decide)) rfl
      (quotedPorts_q8 rfl b11 b12) (quotedSeq_q8 b13) ⟨rfl, rfl⟩ (.inr ⟨rfl, rfl⟩) hf)

theorem c02_sack_te_bytes_opts {s : SackSt} {t : Nat} {p : Sent}
    {oihl qihl otos oid ottl ock ick qtos qlen qid qff qttl qck : Nat} {r rest4 oopts qopts extra : Bytes}
    (hl : s.cfg.localA.length = 4) (htg : s.cfg.target.length = 4) (hr : r.length = 4) (hrest : rest4.length = 4)
    (o1 : 5 ≤ oihl) (o2 : oihl ≤ 15) (o3 : oopts.length = oihl * 4 - 20) (o4 : ip4OptsOK (oihl * 4 - 20) oopts = true)
    (q1 : 5 ≤ qihl) (q2 : qihl ≤ 15) (q3 : qopts.length = qihl * 4 - 20) (q4 : ip4OptsOK (qihl * 4 - 20) qopts = true)
    (b1 : otos < 256) (b2 : oid < 65536) (b3 : ottl < 256)
    (b5 : qtos < 256) (b6 : qihl * 4 + 8 ≤ qlen) (b7 : qlen < 65536) (b8 : qid < 65536) (b9 : qff < 65536) (b10 : qttl < 256)
    (b11 : s.cfg.lport < 65536) (b12 : s.cfg.tport < 65536) (b13 : s.cfg.isn < 4294967296) (b14 : t < 4294967296)
    (hsize : oihl * 4 + 8 + (qihl * 4 + 8 + extra.length) ≤ 1024) (hlk : sackLookup s t = some p) :
    sackRecv s (icmpMsg4o oihl otos oid ottl ock r s.cfg.localA oopts 11 0 ick rest4
        (rawHdr4o qihl qtos qlen qid qff qttl 6 qck s.cfg.localA s.cfg.target qopts ++
          ((be16 s.cfg.lport ++ be16 s.cfg.tport ++ be32 ((s.cfg.isn + t) % 4294967296)) ++ extra))) =
      .accept t r (decide (r = s.cfg.target)) p.time := by
  have hrel := relEdge_add s.cfg.isn b14
  refine Eq.trans (sackRecv_of_accepts
    (parse_icmpMsg4o hr hl hrest ⟨o1, o2, o3, o4⟩ b1 b2 b3 (by decide) (by decide) (u16_beNat (by omega)) (u16_beNat (by omega))
      (by rw [quoted4_length hl htg ⟨q1, q2, q3, q4⟩ rfl]; exact hsize))
    (.te ⟨rfl, rfl⟩ (icmpInfo4_quote hl htg ⟨q1, q2, q3, q4⟩ rfl b5 b6 b7 b8 b9 b10 (by decide)) rfl
      (quotedPorts_q8 rfl b11 b12) (quotedSeq_q8 (Nat.mod_lt _ (by decide))) ⟨rfl, rfl⟩ (.inr ⟨rfl, rfl⟩)
      (hrel.symm ▸ hlk))) ?_
  rw [hrel]; rfl

theorem c02_icmp4_echo_bytes_opts {s : IcmpSt} {t : Nat} {p : Sent}
    {oihl otos oid ottl ock code ick : Nat} {oopts body : Bytes}
    (hl : s.cfg.localA.length = 4) (htg : s.cfg.target.length = 4)
    (o1 : 5 ≤ oihl) (o2 : oihl ≤ 15) (o3 : oopts.length = oihl * 4 - 20) (o4 : ip4OptsOK (oihl * 4 - 20) oopts = true)
    (b1 : otos < 256) (b2 : oid < 65536) (b3 : ottl < 256) (b4 : code < 256)
    (b13 : s.cfg.echoId < 65536) (b14 : t < 65536)
    (hsize : oihl * 4 + 8 + body.length ≤ 1024) (hlk : icmpLookup s t = some p) :
    icmpRecv s (icmpMsg4o oihl otos oid ottl ock s.cfg.target s.cfg.localA oopts 0 code ick (be16 s.cfg.echoId ++ be16 t) body) =
      .accept t s.cfg.target true p.time :=
  icmpRecv_of_accepts
    (parse_icmpMsg4o htg hl rfl ⟨o1, o2, o3, o4⟩ b1 b2 b3 (by omega) b4 (u16_pair b13 b14 []).1 (u16_pair b13 b14 []).2 hsize)
    (.echo4 rfl rfl rfl hlk)

/-- TCP SYN, direct forms, bytes: SYN-ACK / RST / RST-ACK whose TCP header carries ANY option bytes the
    decoder accepts (data offset 5..15: MSS, SACK-permitted, timestamps, window scale, padding — what
    real stacks put on a SYN-ACK), inside an IP header with any accepted options -/
theorem c02_tcp_direct_bytes_allopts {s : TcpSt} {last : Sent}
    {oihl otos oid ff ottl ock doff seq ack fl win ck urg : Nat} {oopts topts pl : Bytes} {parsed : List (Nat × Bytes)}
    (hl : s.cfg.localA.length = 4) (htg : s.cfg.target.length = 4)
    (o1 : 5 ≤ oihl) (o2 : oihl ≤ 15) (o3 : oopts.length = oihl * 4 - 20) (o4 : ip4OptsOK (oihl * 4 - 20) oopts = true)
    (d5 : 5 ≤ doff) (d15 : doff ≤ 15) (hol : topts.length = doff * 4 - 20) (hok : tcpOpts (doff * 4 - 20) topts = some parsed)
    (h1 : otos < 256) (h2 : oid < 65536) (h3 : ottl < 256) (hff : ff < 65536) (hfr : ff % 16384 = 0)
    (b1 : s.cfg.tport < 65536) (b2 : s.cfg.lport < 65536) (b3 : seq < 4294967296) (b4 : ack < 4294967296) (b5 : fl < 256)
    (hfl : ((fl / 2) % 2 = 1 ∧ (fl / 16) % 2 = 1) ∨ (fl / 4) % 2 = 1)
    (hlast : s.sent.getLast? = some last)
    (hack : (fl / 16) % 2 = 1 → last.seq = (ack + 4294967295) % 4294967296)
    (hsize : oihl * 4 + (doff * 4 + pl.length) ≤ 1024) :
    tcpRecv s (tcpMsg4oo oihl otos oid ff ottl ock s.cfg.target s.cfg.localA oopts doff s.cfg.tport s.cfg.lport seq ack fl win ck urg topts pl) =
      .accept last.ttl s.cfg.target true last.time :=
  tcpRecv_of_accepts
    (parse_tcpMsg4oo htg hl ⟨o1, o2, o3, o4⟩ ⟨d5, d15, hol, hok⟩ h1 h2 h3 hff hfr b1 b2 b3 b4 b5 hsize)
    (.direct (by simpa [TCP.syn, TCP.ackf, TCP.rst] using hfl) ⟨rfl, rfl⟩ rfl rfl hlast (by simpa [TCP.ackf] using hack))

/-- SACK, direct form, bytes: an ACK whose TCP options — ANY bytes the decoder accepts: several SACK
    blocks in any order, timestamps, padding — have `t` as their smallest relative left edge
    (`minSack`, the model of `getMinSack`, for every ISN) is the destination's answer for TTL `t` -/
theorem c02_sack_direct_bytes_allopts {s : SackSt} {t : Nat} {p : Sent}
    {oihl otos oid ff ottl ock doff seq ack fl win ck urg : Nat} {oopts topts pl : Bytes} {parsed : List (Nat × Bytes)}
    (hl : s.cfg.localA.length = 4) (htg : s.cfg.target.length = 4)
    (o1 : 5 ≤ oihl) (o2 : oihl ≤ 15) (o3 : oopts.length = oihl * 4 - 20) (o4 : ip4OptsOK (oihl * 4 - 20) oopts = true)
    (d5 : 5 ≤ doff) (d15 : doff ≤ 15) (hol : topts.length = doff * 4 - 20) (hok : tcpOpts (doff * 4 - 20) topts = some parsed)
    (hms : minSack s.cfg.isn parsed = some t)
    (h1 : otos < 256) (h2 : oid < 65536) (h3 : ottl < 256) (hff : ff < 65536) (hfr : ff % 16384 = 0)
    (b1 : s.cfg.tport < 65536) (b2 : s.cfg.lport < 65536) (b3 : seq < 4294967296) (b4 : ack < 4294967296) (b5 : fl < 256)
    (hfl : fl % 2 = 0 ∧ (fl / 2) % 2 = 0 ∧ (fl / 4) % 2 = 0)
    (hsize : oihl * 4 + (doff * 4 + pl.length) ≤ 1024) (hlk : sackLookup s t = some p) :
    sackRecv s (tcpMsg4oo oihl otos oid ff ottl ock s.cfg.target s.cfg.localA oopts doff s.cfg.tport s.cfg.lport seq ack fl win ck urg topts pl) =
      .accept t s.cfg.target true p.time :=
  sackRecv_of_accepts
    (parse_tcpMsg4oo htg hl ⟨o1, o2, o3, o4⟩ ⟨d5, d15, hol, hok⟩ h1 h2 h3 hff hfr b1 b2 b3 b4 b5 hsize)
    (.direct ⟨rfl, rfl⟩ rfl rfl
      ⟨by simpa [TCP.syn] using hfl.2.1, by simpa [TCP.fin] using hfl.1, by simpa [TCP.rst] using hfl.2.2⟩ hms hlk)

theorem c02_tcp_direct_bytes_opts {s : TcpSt} {last : Sent}
    {oihl otos oid ff ottl ock seq ack fl win ck urg : Nat} {oopts pl : Bytes}
    (hl : s.cfg.localA.length = 4) (htg : s.cfg.target.length = 4)
    (o1 : 5 ≤ oihl) (o2 : oihl ≤ 15) (o3 : oopts.length = oihl * 4 - 20) (o4 : ip4OptsOK (oihl * 4 - 20) oopts = true)
    (h1 : otos < 256) (h2 : oid < 65536) (h3 : ottl < 256) (hff : ff < 65536) (hfr : ff % 16384 = 0)
    (b1 : s.cfg.tport < 65536) (b2 : s.cfg.lport < 65536) (b3 : seq < 4294967296) (b4 : ack < 4294967296) (b5 : fl < 256)
    (hfl : ((fl / 2) % 2 = 1 ∧ (fl / 16) % 2 = 1) ∨ (fl / 4) % 2 = 1)
    (hlast : s.sent.getLast? = some last)
    (hack : (fl / 16) % 2 = 1 → last.seq = (ack + 4294967295) % 4294967296)
    (hsize : oihl * 4 + 20 + pl.length ≤ 1024) :
    tcpRecv s (tcpMsg4o oihl otos oid ff ottl ock s.cfg.target s.cfg.localA oopts s.cfg.tport s.cfg.lport seq ack fl win ck urg pl) =
      .accept last.ttl s.cfg.target true last.time := by
  rw [tcpMsg4o_eq]
  exact c02_tcp_direct_bytes_allopts hl htg o1 o2 o3 o4 (by decide) (by decide) rfl rfl h1 h2 h3 hff hfr b1 b2 b3 b4 b5 hfl hlast hack
    (by omega)

theorem c02_sack_direct_bytes_opts {s : SackSt} {t : Nat} {p : Sent}
    {oihl otos oid ff ottl ock seq ack fl win ck urg right : Nat} {oopts pl : Bytes}
    (hl : s.cfg.localA.length = 4) (htg : s.cfg.target.length = 4)
    (o1 : 5 ≤ oihl) (o2 : oihl ≤ 15) (o3 : oopts.length = oihl * 4 - 20) (o4 : ip4OptsOK (oihl * 4 - 20) oopts = true)
    (h1 : otos < 256) (h2 : oid < 65536) (h3 : ottl < 256) (hff : ff < 65536) (hfr : ff % 16384 = 0)
    (b1 : s.cfg.tport < 65536) (b2 : s.cfg.lport < 65536) (b3 : seq < 4294967296) (b4 : ack < 4294967296) (b5 : fl < 256)
    (hfl : fl % 2 = 0 ∧ (fl / 2) % 2 = 0 ∧ (fl / 4) % 2 = 0)
    (b6 : s.cfg.isn < 4294967296) (b7 : t < 4294967296) (b8 : right < 4294967296)
    (hsize : oihl * 4 + 32 + pl.length ≤ 1024) (hlk : sackLookup s t = some p) :
    sackRecv s (rawHdr4o oihl otos (oihl * 4 + 32 + pl.length) oid ff ottl 6 ock s.cfg.target s.cfg.localA oopts ++
        (rawTcpSack s.cfg.tport s.cfg.lport seq ack fl win ck urg ((s.cfg.isn + t) % 4294967296) right ++ pl)) =
      .accept t s.cfg.target true p.time := by
  rw [show oihl * 4 + 32 + pl.length = oihl * 4 + (8 * 4 + pl.length) by omega, rawTcpSack_eq]
  exact c02_sack_direct_bytes_allopts hl htg o1 o2 o3 o4 (by decide) (by decide) (sackOpt_length _ _) (tcpOpts_sackOpt _ _)
    (by rw [minSack_sackOpt (Nat.mod_lt _ (by decide)), relEdge, relEdge_add _ b7])
    h1 h2 h3 hff hfr b1 b2 b3 b4 b5 hfl (by omega) hlk

/-- SACK: what `getMinSack` returns is the LEAST relative left edge over every complete 8-byte block of
    every SACK option of the segment — any number of options and blocks, in any order, on either side of
    the 2^32 sequence wrap (the edge is made relative to the ISN BEFORE the comparison). With
    `c02_sack_direct_bytes_allopts`: the destination's acknowledgement is attributed to the lowest
    probed TTL it selectively acknowledges. -/
theorem c02_sack_min_is_least_block {isn : Nat} {opts : List (Nat × Bytes)} {m : Nat} (h : minSack isn opts = some m) :
    (∃ d k l, (5, d) ∈ opts ∧ 8 * k + 8 ≤ d.length ∧ u32 d (8 * k) = some l ∧ m = relEdge isn l) ∧
    (∀ d k l, (5, d) ∈ opts → 8 * k + 8 ≤ d.length → u32 d (8 * k) = some l → m ≤ relEdge isn l) := by
  obtain ⟨hm, hle⟩ := minSack_least h
  refine ⟨(allEdges_mem isn opts m).mp hm, ?_⟩
  intro d k l h1 h2 h3
  exact hle _ ((allEdges_mem isn opts _).mpr ⟨d, k, l, h1, h2, h3, rfl⟩)

/-- … and "no SACK blocks" (the one inbound segment allowed to end a run, C09/C20) is reported exactly
    when no SACK option of the segment holds a complete block -/
theorem c02_sack_none_iff_no_block {isn : Nat} {opts : List (Nat × Bytes)} :
    minSack isn opts = none ↔ ∀ d, (5, d) ∈ opts → d.length < 8 := by
  rw [minSack_none_iff, List.eq_nil_iff_forall_not_mem]
  constructor
  · intro h d hd
    refine Nat.lt_of_not_le fun hl => ?_
    obtain ⟨l, hu⟩ := u32_of_lt (b := d) (off := 8 * 0) (by omega)
    exact h _ ((allEdges_mem isn opts _).mpr ⟨d, 0, l, hd, hl, hu, rfl⟩)
  · intro h e he
    obtain ⟨d, k, l, hd, hle, _, _⟩ := (allEdges_mem isn opts e).mp he
    have := h d hd; omega

/-- non-vacuity across the wrap: ISN 2^32 - 3, blocks at ISN+4 (= 1 after the wrap) and ISN+2
    (= 2^32 - 1, before it): the least RELATIVE edge is 2 although the least raw edge is 1 -/
example : minSack 0xfffffffd [(1, []), (5, ([0,0,0,1, 0,0,0,2, 0xff,0xff,0xff,0xff, 0,0,0,0] : List Nat).map byte)] = some 2 := by
  decide +kernel

/-- non-vacuity of the option hypotheses (kernel evaluation): the 20 option bytes Linux puts on a SYN-ACK
    (MSS 1460, SACK-permitted, timestamps, NOP, window scale 7) are accepted by the TCP option loop, and
    an ACK carrying NOP NOP timestamps + NOP NOP SACK with two blocks (the second one lower) has the lower
    block's left edge as its smallest relative edge, across the 2^32 wrap (ISN 0xfffffffe, edges ISN+5, ISN+3) -/
example :
    (tcpOpts 20 [2,4,5,0xb4, 4,2, 8,10,0,0,0,1,0,0,0,2, 1, 3,3,7]).isSome = true ∧
    (tcpOpts 32 [1,1,8,10,0,0,0,9,0,0,0,8, 1,1,5,18, 0,0,0,3, 0,0,0,4, 0,0,0,1, 0,0,0,2]).map (minSack 0xfffffffe) =
      some (some 3) := by decide +kernel

/-- the option hypothesis holds for NOP padding of every header length … -/
theorem c02_opts_hyp_nops (ihl : Nat) :
    (List.replicate (ihl * 4 - 20) (byte 1)).length = ihl * 4 - 20 ∧
    ip4OptsOK (ihl * 4 - 20) (List.replicate (ihl * 4 - 20) (byte 1)) = true :=
  ⟨by simp, ip4OptsOK_nops _ _⟩

/-- … and for an end-of-options byte followed by any bytes (what routers leave behind a shortened option list) -/
theorem c02_opts_hyp_eol (m : Nat) (rest : Bytes) : ip4OptsOK m (byte 0 :: rest) = true := by
  cases m with
  | zero => rfl
  | succ m => simp [ip4OptsOK, byte_toNat]

/-- non-vacuity (evaluated by the kernel): a time-exceeded whose outer header carries a record-route
    option (ihl 7: type 7, length 7, pointer 4, one slot, end-of-options) and whose quoted probe
    header carries a router-alert option (ihl 6: 0x94 4 0 0) is accepted for TTL 3 -/
example :
    let cfg : IcmpCfg := { localA := [192,0,2,2], target := [198,51,100,9], echoId := 0x1234, min := 1, max := 30 }
    let st : IcmpSt := { cfg, sent := [{ ttl := 3, id := 0x1234, seq := 3, time := 100 }] }
    ip4OptsOK 8 [7,7,4,0,0,0,0,0] = true ∧ ip4OptsOK 4 [0x94,4,0,0] = true ∧
    icmpRecv st (icmpMsg4o 7 0xc0 7 250 0xbeef [10,9,8,7] [192,0,2,2] [7,7,4,0,0,0,0,0] 11 0 0 [0,0,0,0]
      (rawHdr4o 6 0 32 0x1234 0 1 1 0xabcd [192,0,2,2] [198,51,100,9] [0x94,4,0,0] ++
        (([byte 8, byte 0] ++ be16 0 ++ be16 0x1234 ++ be16 3) ++ []))) =
      .accept 3 [10,9,8,7] false 100 := by decide +kernel

/-- the hypothesis is not decoration: with option bytes the decoder rejects (option length 1) the
    same packet is NOT turned into a hop — the model's counterpart of gopacket's decode error -/
example :
    let cfg : IcmpCfg := { localA := [192,0,2,2], target := [198,51,100,9], echoId := 0x1234, min := 1, max := 30 }
    let st : IcmpSt := { cfg, sent := [{ ttl := 3, id := 0x1234, seq := 3, time := 100 }] }
    ip4OptsOK 4 [7,1,0,0] = false ∧
    icmpRecv st (icmpMsg4o 6 0xc0 7 250 0xbeef [10,9,8,7] [192,0,2,2] [7,1,0,0] 11 0 0 [0,0,0,0]
      (rawHdr4o 5 0 28 0x1234 0 1 1 0xabcd [192,0,2,2] [198,51,100,9] [] ++
        (([byte 8, byte 0] ++ be16 0 ++ be16 0x1234 ++ be16 3) ++ []))) ≠
      .accept 3 [10,9,8,7] false 100 := by decide +kernel

#print axioms c02_icmp4_te_bytes_opts
#print axioms c02_udp4_err_bytes_opts
#print axioms c02_tcp_te_bytes_opts
#print axioms c02_sack_te_bytes_opts
#print axioms c02_icmp4_echo_bytes_opts
#print axioms c02_tcp_direct_bytes_opts
#print axioms c02_sack_direct_bytes_opts
#print axioms c02_opts_hyp_nops
#print axioms c02_opts_hyp_eol
#print axioms c02_tcp_direct_bytes_allopts
#print axioms c02_sack_direct_bytes_allopts
#print axioms c02_sack_min_is_least_block
#print axioms c02_sack_none_iff_no_block
end TRV.Props.C02Opts
