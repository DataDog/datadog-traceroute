import TRV.Proofs.Wrapper
import TRV.Proofs.Classify
/-!
# C10 — Failure atomicity, cause-preserving errors, handles closed exactly once

Model: `TRV.Wrapper` (`icmp`, `udp`, `tcp`, `sack`), reference predicates: `TRV.Spec.Wrapper`
(`atomic`, `closeOnce`, `noUseAfterClose`). All theorems quantify over **every** fault plan (any list
of faults, unbounded call indices), every configuration and every environment (schedule of engine
steps / windows / handshake reads of any length).

Goroutine quiescence is not modelled; it is observed by the harness (`harness/corr/c10_test.go`).
-/
namespace TRV.Props.C10
open TRV.Engine TRV.Wrapper TRV.Spec.Wrapper TRV.Proofs.Wrapper

/-- ICMP (`RunICMPTraceroute`), every fault plan, every schedule: an error result carries the cause of a
    triggered non-benign fault in its chain; a success means no non-benign fault was triggered (no
    partial path returned as a success).  The induction over the schedule is `parWalk_sound`. -/
theorem c10_icmp_atomic (cfg : Cfg) (plan : FaultPlan) (sched : List Step) :
    atomic (icmp cfg plan sched) = true :=
  (icmp_exit cfg plan sched).atomic

/-- ICMP: on every path every handle is opened at most once and closed exactly as often as opened. -/
theorem c10_icmp_close_once (cfg : Cfg) (plan : FaultPlan) (sched : List Step) :
    closeOnce (icmp cfg plan sched).log = true :=
  (icmp_exit cfg plan sched).closeOnce

/-- ICMP: no operation on a handle after its `Close`. -/
theorem c10_icmp_no_use_after_close (cfg : Cfg) (plan : FaultPlan) (sched : List Step) :
    noUseAfterClose (icmp cfg plan sched).log = true :=
  (icmp_exit cfg plan sched).noUseAfterClose

/-- cancellation (ICMP and SACK take the caller's context): when the caller's context is done by the
    time the engine's goroutines have returned, NO path is returned — whatever was received, whatever
    faults were or were not triggered — and the handle discipline theorems above hold unchanged
    (`cfg` is universally quantified there). -/
theorem c10_icmp_cancelled_no_path (cfg : Cfg) (plan : FaultPlan) (sched : List Step) (hc : cfg.cancelled = true) :
    ∃ c, (icmp cfg plan sched).res = .error c :=
  (hc ▸ icmp_exit cfg plan sched).cancelled

/-- … and with no fault triggered and nothing wrong on the wire the error is the cancellation itself -/
theorem c10_icmp_cancelled_cause (cfg : Cfg) (sched : List Step) (hv : cfg.validTarget = true)
    (hc : cfg.cancelled = true) (hp : validParams cfg.min cfg.max = true)
    {s : Slots} (hr : recvLoop cfg.min cfg.max emptySlots (parWalk [] cfg.min cfg.max { cnt := {} } sched).outs = .ok s)
    (hs : (parWalk [] cfg.min cfg.max { cnt := {} } sched).sendErr = false)
    (hf : (parWalk [] cfg.min cfg.max { cnt := {} } sched).firstErr = none) :
    (icmp cfg [] sched).res = .error [W.outer.l, W.inner.l, .cause (.engine .cancelled)] := by
  unfold icmp
  simp only [hv]
  simp only [parallelRun, hp, hr, hs, hc, hf]
  rfl

/-- SACK: the same — a cancelled caller never gets a path -/
theorem c10_sack_cancelled_no_path (cfg : Cfg) (plan : FaultPlan) (env : SackEnv) (hc : cfg.cancelled = true) :
    ∃ c, (sack cfg plan env).res = .error c :=
  (hc ▸ sack_exit cfg plan env).cancelled

/-- UDP (`UDPv4.Traceroute`): failure atomicity and cause preservation, every plan and schedule, including
    `MustClosePort` configurations. -/
theorem c10_udp_atomic (cfg : Cfg) (plan : FaultPlan) (sched : List Step) :
    atomic (udp cfg plan sched) = true :=
  (udp_exit cfg plan sched).atomic

/-- UDP, Linux configurations (`handle.MustClosePort = false`): exactly-once close of every handle. -/
theorem c10_udp_close_once_partial (cfg : Cfg) (plan : FaultPlan) (sched : List Step)
    (hlinux : cfg.mustClosePort = false) : closeOnce (udp cfg plan sched).log = true :=
  (hlinux ▸ udp_exit cfg plan sched).closeOnce

/-- UDP: no operation on a handle after its `Close` (all configurations). -/
theorem c10_udp_no_use_after_close (cfg : Cfg) (plan : FaultPlan) (sched : List Step) :
    noUseAfterClose (udp cfg plan sched).log = true :=
  (udp_exit cfg plan sched).noUseAfterClose

/-- TCP SYN (`TCPv4.Traceroute`, serial engine): failure atomicity and cause preservation, every plan and
    every list of per-TTL windows. -/
theorem c10_tcp_atomic (cfg : Cfg) (plan : FaultPlan) (ws : List (List ROut)) :
    atomic (tcp cfg plan ws) = true :=
  (tcp_exit cfg plan ws).atomic

/-- TCP SYN, Linux configurations (`handle.MustClosePort = false`): exactly-once close of every handle,
    including the reserved-port listener. -/
theorem c10_tcp_close_once_partial (cfg : Cfg) (plan : FaultPlan) (ws : List (List ROut))
    (hlinux : cfg.mustClosePort = false) : closeOnce (tcp cfg plan ws).log = true :=
  (hlinux ▸ tcp_exit cfg plan ws).closeOnce

/-- TCP SYN: no operation on a handle after its `Close` (all configurations). -/
theorem c10_tcp_no_use_after_close (cfg : Cfg) (plan : FaultPlan) (ws : List (List ROut)) :
    noUseAfterClose (tcp cfg plan ws).log = true :=
  (tcp_exit cfg plan ws).noUseAfterClose

/-- SACK (`RunSackTraceroute`): failure atomicity and cause preservation for faults in either filter
    installation, the handshake deadline / reads, the TCP dial and the engine run. -/
theorem c10_sack_atomic (cfg : Cfg) (plan : FaultPlan) (env : SackEnv) :
    atomic (sack cfg plan env) = true :=
  (sack_exit cfg plan env).atomic

/-- SACK: exactly-once close of source, sink, the local-address socket and the TCP connection on every
    path (early returns before `defer driver.Close()` close by hand, later ones by the deferred calls). -/
theorem c10_sack_close_once (cfg : Cfg) (plan : FaultPlan) (env : SackEnv) :
    closeOnce (sack cfg plan env).log = true :=
  (sack_exit cfg plan env).closeOnce

/-- SACK: no operation on a handle after its `Close`. -/
theorem c10_sack_no_use_after_close (cfg : Cfg) (plan : FaultPlan) (env : SackEnv) :
    noUseAfterClose (sack cfg plan env).log = true :=
  (sack_exit cfg plan env).noUseAfterClose

/-- the full close-exactly-once statements, over every configuration including `MustClosePort` -/
def c10_udp_close_once_full : Prop :=
  ∀ (cfg : Cfg) (plan : FaultPlan) (sched : List Step), closeOnce (udp cfg plan sched).log = true
def c10_tcp_close_once_full : Prop :=
  ∀ (cfg : Cfg) (plan : FaultPlan) (ws : List (List ROut)), closeOnce (tcp cfg plan ws).log = true

/-- the full UDP statement is false: with `MustClosePort` (Windows) the local UDP socket is closed twice
    (`conn.Close()` in the branch and again by `defer conn.Close()`), already on the fault-free path -/
theorem c10_udp_close_once_full_false : ¬ c10_udp_close_once_full := by
  intro h
  have := h { min := 1, max := 1, mustClosePort := true } [] []
  revert this; decide

/-- the full TCP statement is false: with `MustClosePort` the reserved listener is closed twice -/
theorem c10_tcp_close_once_full_false : ¬ c10_tcp_close_once_full := by
  intro h
  have := h { min := 1, max := 1, mustClosePort := true } [] []
  revert this; decide

/-- the whole property for one observation, all four variants on Linux configurations -/
theorem c10_all_linux (cfg : Cfg) (plan : FaultPlan) (sched : List Step) (ws : List (List ROut))
    (env : SackEnv) (hlinux : cfg.mustClosePort = false) :
    Atomic (icmp cfg plan sched) = true ∧ Atomic (udp cfg plan sched) = true ∧
    Atomic (tcp cfg plan ws) = true ∧ Atomic (sack cfg plan env) = true := by
  simp only [Atomic, Bool.and_eq_true]
  exact ⟨⟨⟨c10_icmp_atomic _ _ _, c10_icmp_close_once _ _ _⟩, c10_icmp_no_use_after_close _ _ _⟩,
    ⟨⟨c10_udp_atomic _ _ _, c10_udp_close_once_partial _ _ _ hlinux⟩, c10_udp_no_use_after_close _ _ _⟩,
    ⟨⟨c10_tcp_atomic _ _ _, c10_tcp_close_once_partial _ _ _ hlinux⟩, c10_tcp_no_use_after_close _ _ _⟩,
    ⟨⟨c10_sack_atomic _ _ _, c10_sack_close_once _ _ _⟩, c10_sack_no_use_after_close _ _ _⟩⟩

/-- noted, not part of `atomic` (a deadline-class read fault is an ordinary time-out): when the
    handshake read times out, `ReadHandshake` returns "readHandshake timed out" made without `%w`, so
    the returned chain does not contain `os.ErrDeadlineExceeded` — it ends in the fresh time-out error -/
theorem c10_sack_handshake_timeout_chain :
    (sack { min := 1, max := 3 } [{ op := .read, k := 0, cls := .deadline }] { hs := [.done] }).res =
      .error [.wrap .outer, .wrap .handshake, .cause .handshakeTimeout] := by rfl

private def a (t : Nat) (d : Bool) : ROut := .accept { ttl := t, ip := [10, 0, 0, 1], rtt := 0, dest := d }
private def sched3 : List Step :=
  [.send, .rbegin, .rend (a 1 false), .rbegin, .send, .rend (a 2 false), .rbegin, .send,
   .rend (a 3 true), .rbegin, .rend .retry]

/-- a fault-free ICMP run over two routers and the destination returns three hops and the log
    open … filter, (write | deadline read)*, close-source, close-sink -/
example : ((icmp { min := 1, max := 3 } [] sched3).res.toOption.map (·.hops.length)) = some 3 ∧
    (icmp { min := 1, max := 3 } [] sched3).log =
      [.open .localConn, .close .localConn, .open .source, .open .sink, .filter, .write, .deadline, .read,
       .deadline, .read, .write, .deadline, .read, .write, .deadline, .read, .close .source, .close .sink] := by
  constructor <;> rfl

/-- the same run with the second read failing: an error whose chain ends in that injected error, the
    run stops there and both handles are closed once -/
example : (icmp { min := 1, max := 3 } [{ op := .read, k := 1, cls := .fatal }] sched3).res =
      .error [.wrap .outer, .wrap .inner, .wrap .recvProbe, .wrap .connRead, .cause (.injected .read 1)] ∧
    (icmp { min := 1, max := 3 } [{ op := .read, k := 1, cls := .fatal }] sched3).log =
      [.open .localConn, .close .localConn, .open .source, .open .sink, .filter, .write, .deadline, .read,
       .deadline, .read, .close .source, .close .sink] := by
  constructor <;> rfl

/-- a deadline-class read fault is absorbed: still three hops -/
example : ((icmp { min := 1, max := 3 } [{ op := .read, k := 1, cls := .deadline }]
      [.send, .rbegin, .rend (a 1 false), .rbegin, .rbegin, .send, .rend (a 2 false), .rbegin, .send,
       .rend (a 3 true)]).res.toOption.map (·.hops.length)) = some 3 := by rfl

/-- SACK, second filter installation fails: error wrapping it, TCP connection, source and sink closed -/
example : (sack { min := 1, max := 3 } [{ op := .filter, k := 1, cls := .fatal }] { hs := [.ignore, .done], sched := sched3 }).log =
      [.open .localConn, .close .localConn, .open .source, .open .sink, .filter, .open .tcpConn, .deadline,
       .read, .read, .filter, .close .tcpConn, .close .source, .close .sink] := by rfl

/-- the spec predicates are not trivially true: a success after a fatal fault, a double close and a use
    after close are all rejected -/
example : atomic ⟨.ok ⟨[]⟩, [], [{ op := .read, k := 0, cls := .fatal }]⟩ = false ∧
    atomic ⟨.error [.wrap .outer, .cause .natural], [], [{ op := .write, k := 0, cls := .fatal }]⟩ = false ∧
    closeOnce [.open .source, .close .source, .close .source] = false ∧
    closeOnce [.open .source, .open .sink, .close .source] = false ∧
    noUseAfterClose [.open .source, .close .source, .read] = false := by decide

/-! ## Classification of read outcomes (`ReadAndParse`, `CheckProbeRetryable`)

Which read outcomes the engines skip and which end the run with their cause — the decision the
"fatal / deadline / zero-length read" classes of the property rest on.  Model: `TRV.Classify`
(error values as `Unwrap` chains); tie: the `classify` stream of `TestC10` on the real functions. -/

/-- wrapping never changes the classification -/
theorem c10_classification_wrap_invariant (k : Nat) (c : Classify.Chain) :
    Classify.retryable (List.replicate k .wrap ++ c) = Classify.retryable c ∧
    Classify.isDeadline (List.replicate k .wrap ++ c) = Classify.isDeadline c ∧
    Classify.isNotSupported (List.replicate k .wrap ++ c) = Classify.isNotSupported c := by
  -- each of the three looks for links that are not `wrap`
  have h := Classify.contains_replicate_wrap_append k c
  unfold Classify.retryable Classify.isDeadline Classify.isNotSupported
  rw [h .noPkt nofun, h .badPkt nofun, h .deadline nofun, h .notSupported nofun]
  exact ⟨rfl, rfl, rfl⟩

/-- a failed read is "no packet yet" exactly when the deadline sentinel is in its chain -/
theorem c10_classification_read_error (c : Classify.Chain) (hp : Classify.Plain c) :
    Classify.verdict (.err c) = .skip ↔ Classify.isDeadline c = true := by
  cases hd : Classify.isDeadline c with
  | true => simp [Classify.verdict_err_deadline hd]
  | false => simp [Classify.verdict_err_other hp hd]

/-- a time-out-flavoured read FAILURE that is not the sentinel ends the run; the sentinel wrapped the
    way real handles wrap it does not; zero bytes end the run, unparseable bytes are skipped -/
theorem c10_classification_edges (k n : Nat) :
    Classify.verdict (.err (List.replicate k .wrap ++ [.cause true n])) = .abort ∧
    Classify.verdict (.err (List.replicate k .wrap ++ [.deadline])) = .skip ∧
    Classify.verdict (.data 0 false) = .abort ∧ Classify.verdict (.data (n+1) true) = .skip ∧
    Classify.verdict (.data (n+1) false) = .packet :=
  ⟨Classify.verdict_err_other ⟨by simp, by simp⟩ (by simp [Classify.isDeadline]),
   Classify.verdict_err_deadline (by simp [Classify.isDeadline]), Classify.verdict_data_zero false,
   Classify.verdict_data_bad n, Classify.verdict_data_packet n⟩

/-- "not supported" around a plain cause ends the run and stays recognisable; around a bad-packet
    marker it would be skipped -/
theorem c10_classification_not_supported (k n : Nat) (t : Bool) :
    Classify.retryable (.notSupported :: (List.replicate k .wrap ++ [.cause t n])) = false ∧
    Classify.isNotSupported (.notSupported :: (List.replicate k .wrap ++ [.cause t n])) = true ∧
    Classify.retryable (.notSupported :: (List.replicate k .wrap ++ [.badPkt, .cause t n])) = true := by
  simp [Classify.retryable, Classify.isNotSupported]

#print axioms c10_classification_wrap_invariant
#print axioms c10_classification_read_error
#print axioms c10_classification_edges
#print axioms c10_classification_not_supported
#print axioms c10_icmp_cancelled_no_path
#print axioms c10_icmp_cancelled_cause
#print axioms c10_sack_cancelled_no_path
#print axioms c10_icmp_atomic
#print axioms c10_icmp_close_once
#print axioms c10_icmp_no_use_after_close
#print axioms c10_udp_atomic
#print axioms c10_udp_close_once_partial
#print axioms c10_udp_no_use_after_close
#print axioms c10_tcp_atomic
#print axioms c10_tcp_close_once_partial
#print axioms c10_tcp_no_use_after_close
#print axioms c10_sack_atomic
#print axioms c10_sack_close_once
#print axioms c10_sack_no_use_after_close
#print axioms c10_udp_close_once_full_false
#print axioms c10_tcp_close_once_full_false
#print axioms c10_all_linux
#print axioms c10_sack_handshake_timeout_chain
end TRV.Props.C10
