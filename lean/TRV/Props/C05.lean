import TRV.Proofs.Timed
import TRV.Proofs.Accept
import TRV.Proofs.Send
/-!
# C05 — RTT fidelity: probe-send to first-accepted-reply, same probe

Models: `TRV.Drv` (the matchers: `accept ttl ip dest sentAt`, the RTT is `now − sentAt`),
`TRV.Engine` (the engines' slot rules), `TRV.Timed.e2eOnce`.

The six per-variant statements are `Proofs.*Recv_credit` (read off the matchers' verdicts) under
hypotheses that are idle there: the version nibble, `hmin`, `UdpInv`, the target's length.
-/
namespace TRV.Props.C05
open TRV TRV.Wire TRV.Drv TRV.Engine TRV.Spec TRV.Spec.Timed TRV.Timed TRV.Proofs TRV.Proofs.Timed

/-- ICMP/IPv4: the send time an accepted reply is measured against is the one recorded for the TTL
    the reply is attributed to. -/
theorem c05_rtt_same_probe_icmp4 {s : IcmpSt} {pkt : Bytes} {t : Nat} {a : Bytes} {d : Bool} {tm : Nat}
    (h : icmpRecv s pkt = .accept t a d tm) (hv4 : ∃ b0, u8 pkt 0 = some b0 ∧ b0 / 16 = 4) :
    ∃ p ∈ s.sent, p.ttl = t ∧ p.time = tm := icmpRecv_credit h

/-- ICMP/IPv6: the same, whatever the quoted header looks like. -/
theorem c05_rtt_same_probe_icmp6 {s : IcmpSt} {pkt : Bytes} {t : Nat} {a : Bytes} {d : Bool} {tm : Nat}
    (hmin : 1 ≤ s.cfg.min)
    (h : icmpRecv s pkt = .accept t a d tm) (hv6 : ∃ b0, u8 (pkt.take bufSize) 0 = some b0 ∧ b0 / 16 = 6) :
    ∃ p ∈ s.sent, p.ttl = t ∧ p.time = tm := icmpRecv_credit h

/-- UDP/IPv4: the same; the probe is found by the quoted IP id, and the reply is attributed to its TTL. -/
theorem c05_rtt_same_probe_udp4 {s : UdpSt} {pkt : Bytes} {t : Nat} {a : Bytes} {d : Bool} {tm : Nat}
    (hinv : UdpInv s) (h4 : s.cfg.target.length = 4)
    (h : udpRecv s pkt = .accept t a d tm) (hv4 : ∃ b0, u8 (pkt.take bufSize) 0 = some b0 ∧ b0 / 16 = 4) :
    ∃ p ∈ s.sent, p.ttl = t ∧ p.time = tm := udpRecv_credit h

/-- UDP/IPv6: the same; the probe is found by the quoted payload length. -/
theorem c05_rtt_same_probe_udp6 {s : UdpSt} {pkt : Bytes} {t : Nat} {a : Bytes} {d : Bool} {tm : Nat}
    (hinv : UdpInv s) (h6 : s.cfg.target.length ≠ 4)
    (h : udpRecv s pkt = .accept t a d tm) (hv6 : ∃ b0, u8 (pkt.take bufSize) 0 = some b0 ∧ b0 / 16 = 6) :
    ∃ p ∈ s.sent, p.ttl = t ∧ p.time = tm := udpRecv_credit h

/-- TCP SYN (a direct reply of the target is credited to the most recent probe: `t` is then that
    probe's TTL and `tm` its send time). -/
theorem c05_rtt_same_probe_tcp {s : TcpSt} {pkt : Bytes} {t : Nat} {a : Bytes} {d : Bool} {tm : Nat}
    (h : tcpRecv s pkt = .accept t a d tm) (hv4 : ∃ b0, u8 (pkt.take bufSize) 0 = some b0 ∧ b0 / 16 = 4) :
    ∃ p ∈ s.sent, p.ttl = t ∧ p.time = tm := tcpRecv_credit h

/-- SACK: the same; the TTL is the relative sequence number the reply carries (quoted, or the smallest
    SACK left edge). -/
theorem c05_rtt_same_probe_sack {s : SackSt} {pkt : Bytes} {t : Nat} {a : Bytes} {d : Bool} {tm : Nat}
    (h : sackRecv s pkt = .accept t a d tm) (hv4 : ∃ b0, u8 (pkt.take bufSize) 0 = some b0 ∧ b0 / 16 = 4) :
    ∃ p ∈ s.sent, p.ttl = t ∧ p.time = tm := sackRecv_credit h

/-- **Same probe, never another probe's send time.**  When every TTL was probed once (what both
    engines do), the conclusion of the per-variant theorems pins the send time down: it is the
    send time of *the* probe with TTL `t`; whatever is recorded for any other TTL is not used. -/
theorem c05_rtt_same_probe {sent : List Sent} {t tm : Nat} (honce : SentOnce sent)
    (h : ∃ p ∈ sent, p.ttl = t ∧ p.time = tm) :
    ∀ q ∈ sent, q.ttl = t → q.time = tm := by
  obtain ⟨p, hp, hpt, hpm⟩ := h
  intro q hq hqt
  have := honce p hp q hq (by omega)
  subst this; exact hpm

/-- `SendProbe` records the current time: the monotone-clock invariant is kept by every send of
    every variant and by the passage of time. -/
theorem c05_clock_invariant :
    (∀ (s s' : IcmpSt) ttl now now' pkt, SentBefore now s.sent → icmpSend s ttl now = .ok s' pkt → now ≤ now' →
      SentBefore now' s'.sent) ∧
    (∀ (s s' : UdpSt) ttl now now' pkt, SentBefore now s.sent → udpSend s ttl now = .ok s' pkt → now ≤ now' →
      SentBefore now' s'.sent) ∧
    (∀ (s s' : TcpSt) ttl now now' rnd pkt, SentBefore now s.sent → tcpSend s ttl now rnd = .ok s' pkt → now ≤ now' →
      SentBefore now' s'.sent) ∧
    (∀ (s s' : SackSt) ttl now now' pkt, SentBefore now s.sent → sackSend s ttl now = .ok s' pkt → now ≤ now' →
      SentBefore now' s'.sent) := by
  refine ⟨fun _ _ _ _ _ _ hb hs hle => ?_, fun _ _ _ _ _ _ hb hs hle => ?_, fun _ _ _ _ _ _ _ hb hs hle => ?_,
    fun _ _ _ _ _ _ hb hs hle => ?_⟩
  · obtain ⟨_, _, _, rfl, _⟩ := icmpSend_ok hs
    exact sentBefore_snoc hb rfl hle
  · obtain ⟨_, rfl, _⟩ := udpSend_ok hs
    exact sentBefore_snoc hb rfl hle
  · obtain ⟨rfl, _⟩ := tcpSend_ok hs
    exact sentBefore_snoc hb rfl hle
  · obtain ⟨_, _, _, rfl, _⟩ := sackSend_ok hs
    exact sentBefore_snoc hb rfl hle

/-- **Never negative.**  On a monotone clock (every recorded probe was sent at or before `now`) an
    accepted reply — whose send time is a recorded one by the theorems above — has
    `rtt = now − sentAt ≥ 0`. -/
theorem c05_rtt_nonneg {sent : List Sent} {now t tm : Nat} (hmono : SentBefore now sent)
    (hacc : ∃ p ∈ sent, p.ttl = t ∧ p.time = tm) : 0 ≤ rttOf now tm := by
  obtain ⟨p, hp, _, hpm⟩ := hacc
  have := hmono p hp
  unfold rttOf; omega

/-- **Parallel engine: first accepted reply wins, except the destination override.**  For every
    sequence σ of accepted replies (with their RTTs) and every TTL `t`: if no destination reply for
    `t` was accepted the slot holds the earliest reply for `t`; if one was, it holds the earliest
    *destination* reply for `t` — which is the earliest reply for `t` whenever that one is already
    from the destination.  The reported RTT is that reply's. -/
theorem c05_parallel_first_wins (σ : List Probe) (t : Nat) :
    (firstDest σ t = none → merge σ t = firstAccepted σ t) ∧
    (∀ d, firstDest σ t = some d → merge σ t = some d) ∧
    (∀ q, firstAccepted σ t = some q → q.dest = true → merge σ t = some q) := by
  rw [merge_eq_best]
  refine ⟨?_, ?_, ?_⟩
  · intro h; simp [best, h, firstAny, firstAccepted]
  · intro d h; simp [best, h]
  · intro q hq hd
    simp [best, firstDest_of_firstAny hq hd]

/-- The same at the level of what `TracerouteParallel` returns: the slot list is `best` of the
    accepted replies over `min..cut` (C07), so each reported RTT is the one selected above. -/
theorem c05_parallel_result_rtt {min max : Nat} {outs : List ROut} {r : List (Option Probe)}
    (h : parallelRun min max true outs false false = .ok r) (i : Nat) (p : Probe)
    (hi : r[i]? = some (some p)) :
    merge (accepted outs) (min + i) = some p := by
  obtain ⟨rfl, -⟩ := parallel_result h
  have hlt := (List.getElem?_eq_some_iff.1 hi).1
  rw [expected_length] at hlt
  rw [expected_getElem? hlt] at hi
  exact (merge_eq_best ..).trans (Option.some.inj hi)

/-- **Serial engine, full statement**: for every list of per-TTL windows — replies may arrive
    after their own window, duplicates with a larger delay included — each slot of the serial
    engine follows the same rule as the parallel engine over the replies the engine accepted, in
    order: the earliest reply accepted for the TTL, except that a destination reply replaces a
    router reply.  (Before the `fix:` for finding F10 the serial engine overwrote the slot, and a
    late duplicate replaced the reported RTT; the refutation of this statement for that code is
    kept below as `c05_serial_overwrite_refuted`.) -/
theorem c05_serial_first_wins {min max : Nat} {ws : List (List ROut)} {s : Slots}
    (h : serialLoop min max emptySlots ws = .ok s) (t : Nat) :
    (firstDest (serialAccepted min max ws) t = none →
      s t = firstAccepted (serialAccepted min max ws) t) ∧
    (∀ d, firstDest (serialAccepted min max ws) t = some d → s t = some d) ∧
    (∀ q, firstAccepted (serialAccepted min max ws) t = some q → q.dest = true → s t = some q) := by
  rw [serialLoop_merge h]
  exact c05_parallel_first_wins _ t

private def w1 : Probe := { ttl := 1, ip := [10, 0, 0, 1], rtt := 5000000, dest := false }
private def w2 : Probe := { ttl := 2, ip := [10, 0, 0, 2], rtt := 7000000, dest := false }
/-- a late duplicate of hop 2's reply, read in window 3 (RTT measured against probe 2) -/
private def w2' : Probe := { ttl := 2, ip := [10, 0, 0, 2], rtt := 900000000, dest := false }

/-- the slot rule the serial engine had before the fix for F10: `results[probe.TTL] = probe` -/
def overwrite (s : Slots) (p : Probe) : Slots := fun t => if t = p.ttl then some p else s t

/-- **Finding F10 (fixed)**: under the old rule the statement above is false.  Witness: TTLs 1..3;
    windows 1 and 2 accept their own replies; a duplicate of hop 2's reply arrives in window 3:
    hop 2 then reports 900 ms instead of 7 ms.  The correspondence stream `wire-ser-latedup` runs
    this history (and random ones of its kind) against the real engine. -/
theorem c05_serial_overwrite_refuted :
    ([w1, w2, w2'].foldl overwrite emptySlots) 2 ≠ firstAccepted [w1, w2, w2'] 2 ∧
    (merge [w1, w2, w2']) 2 = firstAccepted [w1, w2, w2'] 2 := by
  decide

/-- **Serial engine under the C02 restriction** (no reply arrives after its own window, i.e. the
    reply accepted in the window of TTL `k` has TTL `k`): every slot holds the earliest reply
    accepted for its TTL — which is then the only one, destination or not — and empty slots are
    exactly the TTLs without an accepted reply. -/
theorem c05_serial_first_wins_aligned {min max : Nat} {ws : List (List ROut)} {s : Slots}
    (hal : Aligned min max min ws) (h : serialLoop min max emptySlots ws = .ok s) :
    ∀ t, s t = firstAccepted (serialAccepted min max ws) t := by
  intro t
  rw [serialLoop_merge h, merge_eq_best, best_eq_firstAny (aligned_accepted ws min hal).1]
  rfl

/-- **End-to-end RTT = destination hop's RTT, 0 = no answer.**  `runE2eProbeOnce` runs one
    traceroute with `MinTTL := MaxTTL` and returns the RTT of the first hop marked as destination
    (`GetDestinationHop`), `0` if there is none; an error of the run is passed on.  For the one-hop
    list such a run yields (C03) this is: that hop's RTT if it is the destination, else 0. -/
theorem c05_e2e {ε : Type} (runOnce : Nat → Nat → Except ε (List Hop)) (max : Nat) :
    (∀ e, runOnce max max = .error e → e2eOnce runOnce max = .error e) ∧
    (∀ hops, runOnce max max = .ok hops → e2eOnce runOnce max = .ok (e2eSpec hops)) ∧
    (∀ h, runOnce max max = .ok [h] → e2eOnce runOnce max = .ok (if h.dest then h.rtt else 0)) := by
  refine ⟨fun e he => by simp [e2eOnce, he], fun hops hh => ?_, fun h hh => ?_⟩
  · -- `GetDestinationHop` is the head of the destination hops
    simp only [e2eOnce, hh, destHop, e2eSpec, ← List.head?_filter]
    cases hops.filter (·.dest) <;> rfl
  · simp only [e2eOnce, hh, destHop, List.find?]
    cases h.dest <;> rfl

/-- the F10 witness history run end to end: the untimed serial engine keeps hop 2's first reply
    (7 ms); window 3 was consumed by the duplicate, hop 3 stays empty -/
example : serialRun 1 3 [[.accept w1], [.retry, .accept w2], [.accept w2']] false false =
    .ok [some w1, some w2, none] := by rfl

/-- the same replies under the parallel rule: hop 2 keeps 7 ms -/
example : (merge [w1, w2, w2'] 2).map (·.rtt) = some 7000000 := by decide

/-- aligned windows: the partial theorem's hypothesis is satisfiable and non-trivial -/
example : Aligned 1 3 1 [[.accept w1], [.retry, .accept w2], []] := by
  refine ⟨?_, ?_, ?_, trivial⟩ <;> intro p hp <;> simp [serialWindow, validProbe, w1, w2] at hp <;>
    subst hp <;> rfl

/-- an end-to-end probe whose single hop is the destination, and one without answer -/
example : e2eOnce (ε := Unit) (fun a _ => .ok [{ ttl := a, ip := [1, 2, 3, 4], rtt := 12345678, dest := true }]) 30
    = .ok 12345678 := by rfl
example : e2eOnce (ε := Unit) (fun a _ => .ok [{ ttl := a, ip := [], rtt := 0, dest := false }]) 30 = .ok 0 := by rfl

example : rttOf 1000 400 = 600 := by decide

#print axioms c05_rtt_same_probe_icmp4
#print axioms c05_rtt_same_probe_icmp6
#print axioms c05_rtt_same_probe_udp4
#print axioms c05_rtt_same_probe_udp6
#print axioms c05_rtt_same_probe_tcp
#print axioms c05_rtt_same_probe_sack
#print axioms c05_rtt_same_probe
#print axioms c05_clock_invariant
#print axioms c05_rtt_nonneg
#print axioms c05_parallel_first_wins
#print axioms c05_parallel_result_rtt
#print axioms c05_serial_first_wins
#print axioms c05_serial_overwrite_refuted
#print axioms c05_serial_first_wins_aligned
#print axioms c05_e2e
end TRV.Props.C05
