import TRV.Model.Engine
import TRV.Model.Timed
import TRV.Model.Classify
import TRV.Generated.LogicCommon
/-!
# Tie theorems: the engine model equals the decision trees REGENERATED from `common/*.go`

`TRV.Generated.LogicCommon` is rewritten from the Go source on every run by the translator
(`harness/extract/logic.go`): for each listed function the decision logic is a Lean function
`run : Atoms → R`, where the fields of `Atoms` are the uninterpreted sub-expressions of the Go
code, named by their canonical Go text.  Each theorem below instantiates the atoms from the
hand-written model's own variables and proves, for ALL values, that the hand-written model function
and the regenerated function agree.  A change of the Go code that alters a decisive comparison, its
polarity, an integer width or conversion, a constant, or which field is read, makes the structure
literal ill-typed or the equality unprovable: `lake build` fails, and the check searches for a concrete
input by re-running its quick streams under two more seeds (a `TIE-DRIFT` note if it finds none,
DESIGN §10, §11.7).

These theorems connect `TRV.Engine.validParams / validProbe / writeProbe / serialWrite / clipList`,
`TRV.Timed.Cfg.count`, the `MaxTimeout` term of `TRV.Timed.parallelT` and `TRV.Classify.retryable` to the
source text; C03, C05, C07, C08, C10 list this module.  The `_h*` bounds of `tie_validate`,
`tie_validateProbe` and `tie_probeCount` are idle: they record that the Go fields (`MinTTL`, `MaxTTL`,
`ProbeResponse.TTL`) are `uint8`; the model's are `Nat` and the equalities hold without them.
-/
namespace TRV.Props.TieEngine
open TRV TRV.Engine TRV.Logic TRV.Generated.LogicCommon

/-- `TracerouteParams.validate` returns nil exactly when the model's `validParams` holds -/
theorem tie_validate (min max : Nat) (_h1 : min < 256) (_h2 : max < 256) :
    (validate.run { «p.MinTTL» := min, «p.MaxTTL» := max }).okAt "0" = validParams min max := by
  unfold validate.run validParams
  -- with the verdict taken at every leaf the tree is a Boolean formula over its comparisons; arithmetic
  -- compares it with the model's
  simp only [apply_ite (R.okAt · "0")]
  rw [Bool.eq_iff_iff]
  simp [R.okAt, R.get] <;> omega

/-- `validateProbe` on a non-nil probe returns nil exactly when the model's `validProbe` holds -/
theorem tie_validateProbe (min max : Nat) (p : Probe) (_h1 : min < 256) (_h2 : max < 256) (_h3 : p.ttl < 256) :
    (validateProbe.run { «probe == nil» := false, «probe.TTL» := p.ttl,
                         «p.MinTTL» := min, «p.MaxTTL» := max }).okAt "0" = validProbe min max p := by
  unfold validateProbe.run validProbe
  simp only [apply_ite (R.okAt · "0")]
  rw [Bool.eq_iff_iff]
  simp [R.okAt, R.get] <;> omega

/-- a nil probe is an error whatever the other atoms are (the model's `ROut.nilProbe` outcome) -/
theorem tie_validateProbe_nil (ttl min max : Nat) :
    (validateProbe.run { «probe == nil» := true, «probe.TTL» := ttl,
                         «p.MinTTL» := min, «p.MaxTTL» := max }).okAt "0" = false := by
  simp [validateProbe.run, R.okAt, R.get]

/-- `ProbeCount` is the model's `Cfg.count`, computed in `int` after widening both TTLs (no uint8
    wrap-around) -/
theorem tie_probeCount (c : Timed.Cfg) (_h1 : c.min < 256) (_h2 : c.max < 256) :
    (ProbeCount.run { «p.MinTTL» := c.min, «p.MaxTTL» := c.max }).rets = [("0", V.int (c.count : Int))] := by
  unfold ProbeCount.run Timed.Cfg.count
  (repeat' split) <;> simp_all <;> omega

/-- `MaxTimeout` = `TracerouteTimeout + SendDelay * ProbeCount()`: the overall deadline used by the
    timed model of the parallel engine (`Timed.parallelT`: `start + c.timeout + c.count * c.delay`) -/
theorem tie_maxTimeout (c : Timed.Cfg) :
    (MaxTimeout.run { «p.SendDelay» := c.delay, «p.ProbeCount()» := c.count,
                      «p.TracerouteTimeout» := c.timeout }).rets
      = [("0", V.int ((c.timeout + c.count * c.delay : Nat) : Int))] := by
  simp [MaxTimeout.run, Int.mul_comm]

/-- interpretation of a write decision: the slot array after the effects of the path -/
def applyWrite (s : Slots) (p : Probe) (r : R) : Slots :=
  if r.effects = ["results[probe.TTL] = probe"] then (fun t => if t = p.ttl then some p else s t)
  else if r.effects = [] then s
  else emptySlots    -- an effect the model does not know: never equal to the model below

/-- the atoms of the write decision, read off the model's state -/
def writeAtoms (s : Slots) (p : Probe) : writeProbe.Atoms :=
  { «results[probe.TTL] == nil» := (s p.ttl).isNone
    «results[probe.TTL].IsDest» := isDestSlot (s p.ttl)
    «probe.IsDest» := p.dest }

/-- the `writeProbe` closure of `TracerouteParallel` is the model's `writeProbe` -/
theorem tie_writeProbe (s : Slots) (p : Probe) :
    applyWrite s p (writeProbe.run (writeAtoms s p)) = Engine.writeProbe s p := by
  funext t
  unfold applyWrite writeProbe.run writeAtoms Engine.writeProbe isDestSlot
  cases h : s p.ttl with
  | none => by_cases ht : t = p.ttl <;> simp [h, ht]
  | some prev =>
    by_cases ht : t = p.ttl <;> cases hp : prev.dest <;> cases p.dest <;> simp [h, ht, hp]

/-- the slot update inside `TracerouteSerial` is the model's `serialWrite` (same rule, written as one
    condition in the Go source) -/
theorem tie_serialWrite (s : Slots) (p : Probe) :
    applyWrite s p (serialWrite.run
      { «results[probe.TTL] == nil» := (s p.ttl).isNone
        «results[probe.TTL].IsDest» := isDestSlot (s p.ttl)
        «probe.IsDest» := p.dest }) = Engine.serialWrite s p := by
  funext t
  unfold applyWrite serialWrite.run Engine.serialWrite Engine.writeProbe isDestSlot
  cases h : s p.ttl with
  | none => by_cases ht : t = p.ttl <;> simp [h, ht]
  | some prev =>
    by_cases ht : t = p.ttl <;> cases hp : prev.dest <;> cases p.dest <;> simp [h, ht, hp]

/-- `slices.IndexFunc(results, pr != nil && pr.IsDest)` on the model's slot list -/
def destIdx (rs : List (Option Probe)) : Int :=
  match rs.findIdx? isDestSlot with
  | some i => (i : Int)
  | none => -1

/-- interpretation of what `clipResults` returns: the two slice expressions of the source -/
def applyClip (min : Nat) (rs : List (Option Probe)) (r : R) : Option (List (Option Probe)) :=
  let cut (l : List (Option Probe)) := if min ≤ l.length then some (l.drop min) else none
  match r.get "0" with
  | some (V.ref t) =>
    if t = "results[minTTL:]" then cut rs
    else if t = "slices.Clip(results[:slices.IndexFunc(results, func(pr *ProbeResponse) bool { return pr != nil && pr.IsDest }) + 1])[minTTL:]"
      then cut (rs.take ((destIdx rs + 1).toNat))
    else none
  | _ => none

/-- `clipResults` is the model's `clipList` (the slice-bounds panic of `results[minTTL:]` included) -/
theorem tie_clipResults (min : Nat) (rs : List (Option Probe)) :
    applyClip min rs (clipResults.run
      { «slices.IndexFunc(results, func(pr *ProbeResponse) bool { return pr != nil && pr.IsDest })» := destIdx rs })
      = clipList min rs := by
  unfold applyClip clipResults.run clipList destIdx
  cases h : rs.findIdx? isDestSlot with
  | none => simp [R.get]
  | some i =>
    have h2 : ((i : Int) + 1).toNat = i + 1 := by omega
    simp [R.get, h2]

/-- `CheckProbeRetryable` is the model's `retryable` over the error chain -/
theorem tie_checkProbeRetryable (c : Classify.Chain) :
    (CheckProbeRetryable.run
      { «errors.As(err, &&ReceiveProbeNoPktError{})» := c.contains .noPkt
        «errors.As(err, &&BadPacketError{})» := c.contains .badPkt }).rets
      = [("0", V.bool (Classify.retryable c))] := by
  unfold CheckProbeRetryable.run Classify.retryable
  cases c.contains Classify.Link.noPkt <;> cases c.contains Classify.Link.badPkt <;> simp

/-! non-vacuity at the ends of the TTL range: first TTL 0 is rejected, 1..255 passes and counts 255 probes -/
example : (validate.run { «p.MinTTL» := 0, «p.MaxTTL» := 30 }).okAt "0" = false := by decide
example : (validate.run { «p.MinTTL» := 1, «p.MaxTTL» := 255 }).okAt "0" = true := by decide
example : (ProbeCount.run { «p.MinTTL» := 1, «p.MaxTTL» := 255 }).rets = [("0", V.int 255)] := by decide

#print axioms tie_validate
#print axioms tie_validateProbe
#print axioms tie_validateProbe_nil
#print axioms tie_probeCount
#print axioms tie_maxTimeout
#print axioms tie_writeProbe
#print axioms tie_serialWrite
#print axioms tie_clipResults
#print axioms tie_checkProbeRetryable

end TRV.Props.TieEngine
