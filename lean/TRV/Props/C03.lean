import TRV.Proofs.Engine
/-!
# C03 — Path shape: consecutive TTLs, ends at first destination answer
-/
namespace TRV.Props.C03
open TRV.Engine TRV.Spec TRV.Proofs

/-- For every slot array satisfying the engine invariant, `clipResults` does not hit its slice
    bound, `ToHops` does not take its error branch, and the hop list is never empty, has consecutive
    TTLs from the first TTL, ends at the first destination slot (or the last TTL), and only its last
    entry can be the destination.  All `min ≤ max`, all slot contents. -/
theorem c03_clip_shape {min max : Nat} {s : Slots} (hmin : min ≤ max) (hinv : SlotInv min max s) :
    ∃ r hops, clipList min (slotList max s) = some r ∧ toHops min r = some hops ∧
      shapeOK min (slotCut s max) hops = true :=
  let ⟨h1, hops, h2, h3⟩ := clip_shape hmin hinv
  ⟨_, hops, h1, h2, h3⟩

/-- Parallel engine: every successful run, whatever was received in whatever order, yields a hop
    list of the path shape, cut at the lowest TTL the destination answered. -/
theorem c03_parallel_shape {min max : Nat} {outs : List ROut} {r : List (Option Probe)}
    (h : parallelRun min max true outs false false = .ok r) :
    ∃ hops, toHops min r = some hops ∧ shapeOK min (cutOf (accepted outs) max) hops = true := by
  obtain ⟨rfl, hmin, hv⟩ := parallel_result h
  obtain ⟨_, hops, h2, h3⟩ := clip_shape hmin (merge_inv hv)
  exact ⟨hops, expected_eq .. ▸ h2, cutOf_eq_slotCut .. ▸ h3⟩

/-- Parallel engine: no run, failed or not, panics in `clipResults` (no `.panic` result). -/
theorem c03_parallel_no_panic {min max : Nat} {outs : List ROut} {se ec : Bool} :
    parallelRun min max true outs se ec ≠ .error .panic := by
  unfold parallelRun
  cases hvp : validParams min max
  · simp
  · cases hs : recvLoop min max emptySlots outs with
    | error e =>
      -- the receiver loop has no `.panic` error
      rcases recvLoop_error hs with rfl | rfl <;> simp
    | ok s =>
      have hmin : min ≤ max := (validParams_iff.1 hvp).1
      obtain ⟨rfl, hv⟩ := recvLoop_ok hs
      have h1 := (clip_shape hmin (foldl_writeProbe_inv _ _ (emptySlots_inv min max) hv)).1
      cases se <;> cases ec <;> simp [h1]

/-- Serial engine: every successful run yields a hop list of the path shape, cut at the first
    destination slot. -/
theorem c03_serial_shape {min max : Nat} {ws : List (List ROut)} {r : List (Option Probe)}
    (h : serialRun min max ws false false = .ok r) :
    ∃ s hops, toHops min r = some hops ∧ shapeOK min (slotCut s max) hops = true ∧
      serialLoop min max emptySlots ws = .ok s := by
  obtain ⟨hvp, _, _, s, hs, hclip⟩ := serialRun_ok_iff.1 h
  have hvp' : min ≤ max := (validParams_iff.1 hvp).1
  obtain ⟨h1, hops, h2, h3⟩ := clip_shape hvp' (serialLoop_inv (emptySlots_inv min max) hs)
  cases hclip.symm.trans h1
  exact ⟨s, hops, h2, h3, hs⟩

/-- non-vacuity: min = 2, a silent TTL, destination at 4, late duplicate for TTL 3 -/
example :
    let b : Probe := { ttl := 3, ip := [10,0,0,2], rtt := 9, dest := false }
    let c : Probe := { ttl := 4, ip := [10,0,0,9], rtt := 12, dest := true }
    (parallelRun 2 30 true [.accept c, .accept b, .accept b] false false = .ok [none, some b, some c]) ∧
    shapeOK 2 4 [{ ttl := 2, ip := [], rtt := 0, dest := false },
                 { ttl := 3, ip := [10,0,0,2], rtt := 9, dest := false },
                 { ttl := 4, ip := [10,0,0,9], rtt := 12, dest := true }] = true := by
  exact ⟨rfl, rfl⟩

#print axioms c03_clip_shape
#print axioms c03_parallel_shape
#print axioms c03_parallel_no_panic
#print axioms c03_serial_shape
end TRV.Props.C03
