import TRV.Proofs.Timed
import TRV.Props.C18
import TRV.Generated.PublicIPFacts
/-!
# C08 — Bounded termination and prompt cancellation

Models: `TRV.Timed` (`serialT`, `parallelT`, `sackT`, `rdnsAll`, `HonoursCtx`) and `TRV.Enrich`
(`GetPublicIP`).
All bounds hold for every script of every length, every cancellation instant, every send-duration
function; `DriverOK c σ script sd` = every `ReceiveProbe` call returns within `poll`, every
`SendProbe` within `σ`.  Times are on the model's clock (ns).
-/
namespace TRV.Props.C08
open TRV TRV.Engine TRV.Timed TRV.Spec.Timed TRV.Proofs.Timed

/-- **Serial runs are bounded by the per-TTL sum**: whatever the driver returns and whenever the
    caller cancels, `TracerouteSerial` returns within `count · (max timeout delay + poll + σ)`. -/
theorem c08_serial_bound (c : Cfg) (cancel : Option Nat) (sd : Nat → Nat) (sfail : Nat → Bool)
    (σ start : Nat) (script : List RCall) (hok : DriverOK c σ script sd) :
    (serialT c cancel sd sfail start script).finish ≤ start + serialBound c σ := by
  unfold serialT
  split
  · exact Nat.le_add_right ..
  · exact serLoop_finish_le cancel sfail hok.2 c.count c.min start hok.1

/-- **Parallel runs are bounded by timeout + per-probe delays + one poll interval** (+ the time
    spent inside `SendProbe`): whatever the driver returns and whenever the caller cancels,
    `TracerouteParallel` returns within `timeout + count·delay + poll + count·σ`. -/
theorem c08_parallel_bound (c : Cfg) (cancel : Option Nat) (sd : Nat → Nat) (sfail : Nat → Bool)
    (σ start : Nat) (script : List RCall) (hok : DriverOK c σ script sd) :
    (parallelT c cancel sd sfail start script).finish ≤ start + parallelBound c σ := by
  unfold parallelBound
  by_cases hv : validParams c.min c.max = true
  · obtain ⟨r0, stop, wstop, hr0, hstop, _, hfin⟩ := parallelT_finish hv cancel sd sfail start script
    have := optMin_le_left (start + c.timeout + c.count * c.delay) cancel
    have := hok.2 c.min
    rw [hfin]
    apply Nat.max_le.2 ⟨?_, ?_⟩
    · have := recvT_end_le stop r0 hok.1
      have : σ ≤ c.count * σ := Nat.le_mul_of_pos_left σ (count_pos hv)
      omega
    · have := sendT_end_le c wstop sfail hok.2 c.count c.min start
      have := Nat.mul_add c.count c.delay σ
      omega
  · simp [parallelT, hv]

/-- **Prompt cancellation, serial**: when the caller cancels at `cc` (not before the start),
    `TracerouteSerial` has returned by `cc + poll + delay + σ`; and if the driver does not fail,
    a run still going on at `cc` returns the cancellation error (never a hop list). -/
theorem c08_cancel_serial (c : Cfg) (cc : Nat) (sd : Nat → Nat) (sfail : Nat → Bool)
    (σ start : Nat) (script : List RCall) (hok : DriverOK c σ script sd) (hstart : start ≤ cc) :
    (serialT c (some cc) sd sfail start script).finish ≤ cc + cancelBound c σ ∧
    (NoFail c script sfail → validParams c.min c.max = true →
      cc ≤ (serialT c (some cc) sd sfail start script).finish →
      (serialT c (some cc) sd sfail start script).result = .error .cancelled) := by
  refine ⟨?_, fun hnf hv hfin => ?_⟩
  · have := serLoop_cancel_le cc sfail hok.2 c.count c.min start hok.1
    unfold serialT cancelBound
    split <;> dsimp only <;> omega
  · obtain ⟨ws, sl, hsl, hres⟩ := serialT_nofail hnf hv (some cc) sd start
    rw [hres, isCancelled_some.2 hfin]
    simp [serialRun, hv, hsl]

/-- **Prompt cancellation, parallel**: when the caller cancels at `cc` (not before the start),
    `TracerouteParallel` has returned by `cc + poll + delay + σ`; and if the driver does not fail,
    a run still going on at `cc` returns the cancellation error (never a hop list). -/
theorem c08_cancel_parallel (c : Cfg) (cc : Nat) (sd : Nat → Nat) (sfail : Nat → Bool)
    (σ start : Nat) (script : List RCall) (hok : DriverOK c σ script sd) (hstart : start ≤ cc) :
    (parallelT c (some cc) sd sfail start script).finish ≤ cc + cancelBound c σ ∧
    (NoFail c script sfail → validParams c.min c.max = true →
      cc ≤ (parallelT c (some cc) sd sfail start script).finish →
      (parallelT c (some cc) sd sfail start script).result = .error .cancelled) := by
  refine ⟨?_, fun hnf hv hfin => ?_⟩
  · unfold cancelBound
    by_cases hv : validParams c.min c.max = true
    · obtain ⟨r0, stop, wstop, hr0, hstop, hwstop, hfin⟩ := parallelT_finish hv (some cc) sd sfail start script
      have := optMin_le_some (start + c.timeout + c.count * c.delay) cc
      have := hok.2 c.min
      rw [hfin]
      apply Nat.max_le.2 ⟨?_, ?_⟩
      · have := recvT_end_le stop r0 hok.1
        omega
      · have := sendT_end_stop c wstop sfail hok.2 c.count c.min start
        omega
    · simp [parallelT, hv]; omega
  · obtain ⟨outs, sl, hsl, hres⟩ := parallelT_nofail hnf hv (some cc) sd start
    rw [hres, isCancelled_some.2 hfin]
    simp [parallelRun, hv, hsl]

/-- **SACK runs include the handshake budgets**: with the dial bounded by `D`
    (`net.Dialer.Timeout = HandshakeTimeout`) and the handshake read by `H` (its 500 ms read
    deadline plus one read), `runSackTraceroute` returns within `D + H` + the parallel bound,
    whether the dial or the handshake fail or the engine runs. -/
theorem c08_sack_bound (c : Cfg) (outer D H dialDur hsDur : Nat) (dialOK hsOK : Bool)
    (sd : Nat → Nat) (sfail : Nat → Bool) (σ start : Nat) (script : List RCall)
    (hok : DriverOK c σ script sd) (hd : dialDur ≤ D) (hh : hsDur ≤ H) :
    (sackT c outer dialDur dialOK hsDur hsOK sd sfail start script).2 ≤ start + sackBound c σ D H := by
  unfold sackT sackBound
  have := c08_parallel_bound c (some outer) sd sfail σ (start + dialDur + hsDur) script hok
  split
  · simp only; omega
  · split
    · simp only; omega
    · simp only; omega

/-- the regenerated fact: `getPublicIPUsingIPChecker` builds its request with the per-provider
    context (this line stops compiling when the extractor finds otherwise — finding F9) -/
theorem c08_publicip_request_carries_ctx : TRV.Generated.PublicIP.requestCarriesCtx = true := by decide

/-- **Public-IP discovery is bounded by providers × per-provider budget.**  Because the request
    carries the per-provider context (regenerated fact), `OpHonoursCtx` applies: an attempt returns
    at most `eps` after that context is done.  Then every provider's retry loop returns within its
    budget + `eps` and the whole discovery within `providers · (2 s + eps)` — whatever the
    endpoints do (hang before or after the headers, slow body). -/
theorem c08_publicip_bound (ps : List Enrich.Provider) (eps : Nat)
    (hb : ∀ p ∈ ps, p.budget ≤ Enrich.callTimeout)
    (hh : TRV.Generated.PublicIP.requestCarriesCtx = true →
      ∀ p ∈ ps, HonoursCtx p.budget eps p.script p.ivals 0) :
    (Enrich.get ps).elapsed ≤ ps.length * (Enrich.callTimeout + eps) ∧
    Enrich.callTimeout = TRV.Generated.PublicIP.callTimeoutNs := by
  have hfact := hh c08_publicip_request_carries_ctx
  exact ⟨Proofs.Enr.getFrom_honours_le 0 ps fun p hp => ⟨hb p hp, hfact p hp⟩, by decide⟩

/-- The same through `c18_provider_within_budget` (the coarser form: no single attempt outlives the
    budget by more than `eps`, so `op = 2 s + eps`): `providers · (2 s + (2 s + eps))`. -/
theorem c08_publicip_bound_c18 (ps : List Enrich.Provider) (eps : Nat)
    (hb : ∀ p ∈ ps, p.budget ≤ Enrich.callTimeout)
    (hh : TRV.Generated.PublicIP.requestCarriesCtx = true →
      ∀ p ∈ ps, ∀ a ∈ p.script, a.dur ≤ p.budget + eps) :
    (Enrich.get ps).elapsed ≤ ps.length * (Enrich.callTimeout + (Enrich.callTimeout + eps)) := by
  have hfact := hh c08_publicip_request_carries_ctx
  refine (TRV.Props.C18.c18_provider_within_budget ps Enrich.callTimeout (Enrich.callTimeout + eps) ?_).2
  intro p hp
  refine ⟨hb p hp, ?_⟩
  intro a ha
  have h1 := hfact p hp a ha
  have h2 := hb p hp
  omega

/-- **Reverse DNS is bounded by its 5 s context**: with a resolver that honours its context, the
    concurrent look-ups of `GetReverseDnsForIPs` have all returned after 5 s, however long each
    would take and however many there are. -/
theorem c08_rdns_bound (raws : List Nat) : rdnsAll true raws ≤ rdnsTimeout := by
  unfold rdnsAll
  apply foldl_max_le
  · omega
  · intro x hx
    simp only [List.mem_map] at hx
    obtain ⟨r, _, rfl⟩ := hx
    simp [rdnsLookup]; omega

section Examples

private def pA : Probe := { ttl := 1, ip := [10, 0, 0, 1], rtt := 7000000, dest := false }
private def pD : Probe := { ttl := 3, ip := [10, 0, 0, 9], rtt := 21000000, dest := true }
private def cfg : Cfg := { min := 1, max := 4, timeout := 3000000000, delay := 50000000, poll := 100000000 }
private def script : List RCall :=
  [⟨.retry, 100000000⟩, ⟨.accept pA, 30000001⟩, ⟨.retry, 100000000⟩, ⟨.accept pD, 5000000⟩]

/-- parallel: TTLs 1..4 are sent at 0/50/100/150 ms, the destination is seen at 235 ms; the receiver
    listens for the whole budget (3 s + 4·50 ms) and returns at its first poll boundary after it -/
example : (parallelT cfg none (fun _ => 0) (fun _ => false) 0 script).finish = 3235000001 ∧
    (parallelT cfg none (fun _ => 0) (fun _ => false) 0 script).sends =
      [(1, 0), (2, 50000000), (3, 100000000), (4, 150000000)] := by decide

/-- the same run cancelled at 1 s returns at the next poll boundary, well within the bound -/
example : (parallelT cfg (some 1000000500) (fun _ => 0) (fun _ => false) 0 script).finish = 1035000001 := by decide

/-- serial: windows 1 and 2 end early (reply / destination at TTL 3 read in window 2), finish = 235 ms -/
example : (serialT cfg none (fun _ => 0) (fun _ => false) 0 script).finish = 235000001 := by decide

/-- serial on a silent wire: four full windows of 3 s -/
example : (serialT cfg none (fun _ => 0) (fun _ => false) 0 []).finish = 12000000000 := by decide

example : serialBound cfg 0 = 12400000000 ∧ parallelBound cfg 0 = 3300000000 := by decide

end Examples

#print axioms c08_serial_bound
#print axioms c08_parallel_bound
#print axioms c08_cancel_serial
#print axioms c08_cancel_parallel
#print axioms c08_sack_bound
#print axioms c08_publicip_request_carries_ctx
#print axioms c08_publicip_bound
#print axioms c08_publicip_bound_c18
#print axioms c08_rdns_bound
end TRV.Props.C08
