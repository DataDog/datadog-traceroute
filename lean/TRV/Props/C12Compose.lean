import TRV.Props.C12
import TRV.Proofs.CrossProto
import TRV.Proofs.Sound
import TRV.Proofs.Send
import TRV.Proofs.Link
/-!
# C12, composition with the matchers: "enabling filtering never changes results"

`TRV.Props.C12` proves what each (regenerated) filter program accepts.  This module composes that
with the driver models: **whenever a matcher turns a packet into a hop, the program that variant
has installed while it reads replies accepts the frame** (Ethernet header + that packet), for
every state of the run and every byte string.

* IPv4, all variants (`c12_compose_icmp4`, `c12_compose_udp4`, `c12_compose_tcp`,
  `c12_compose_sack`): proved with no restriction.  The argument goes through the raw-offset
  genuineness predicates: an accepted packet is genuine (`*_sound`), a genuine packet has outer
  protocol 1, or is a TCP segment at fragment offset 0 on the configured tuple, and the filter
  accepts exactly those (`c12_*_covers_ip`).
* IPv6 (`c12_compose_icmp6_partial`, `c12_compose_udp6_partial`): proved for packets whose IPv6
  header is directly followed by ICMPv6.  The full statement is FALSE of the code as it is
  (`c12_compose_icmp6_full_false`, finding F12): the matchers accept an ICMPv6 message behind a
  hop-by-hop extension header (gopacket decodes the extension header in place), the ICMP filter
  only looks at the fixed header's next-header field (58, or 44 followed by 58) and drops it.
-/
namespace TRV.Props.C12
open TRV TRV.Bpf TRV.Spec TRV.Spec.Filters TRV.Generated.Filters TRV.Proofs.Bpf TRV.Drv TRV.Wire TRV.Proofs

/-- **ICMP/IPv4**: every packet the ICMP matcher turns into a hop passes the ICMP filter. -/
theorem c12_compose_icmp4 {s : IcmpSt} {pkt eth : Bytes} {t : Nat} {a : Bytes} {d : Bool} {tm : Nat}
    (hlen : eth.length = 14) (het : u16 eth 12 = some 0x0800)
    (hv4 : ∃ b0, u8 pkt 0 = some b0 ∧ b0 / 16 = 4)
    (h : icmpRecv s pkt = .accept t a d tm) :
    accepts icmp (eth ++ pkt) = true := by
  have hp : u8 (pkt.take bufSize) 9 = some 1 := by
    rcases sig_icmp4 (icmp4_sound h (version_take hv4)) with hq | he
    · exact sigQuoted_proto hq
    · exact sigEcho_proto he
  exact c12_icmp_covers_ip eth pkt hlen (Or.inl ⟨het, take_u8 hp⟩)

/-- **UDP/IPv4**: every packet the UDP matcher turns into a hop passes the ICMP filter (the filter
    the UDP variant installs). -/
theorem c12_compose_udp4 {s : UdpSt} {pkt eth : Bytes} {t : Nat} {a : Bytes} {d : Bool} {tm : Nat}
    (hlen : eth.length = 14) (het : u16 eth 12 = some 0x0800)
    (hv4 : ∃ b0, u8 (pkt.take bufSize) 0 = some b0 ∧ b0 / 16 = 4)
    (h : udpRecv s pkt = .accept t a d tm) :
    accepts icmp (eth ++ pkt) = true := by
  have hp := sigQuoted_proto (sig_udp4 (udp4_sound h hv4))
  exact c12_icmp_covers_ip eth pkt hlen (Or.inl ⟨het, take_u8 hp⟩)

/-- the tuple filter configured as the variants configure it accepts a direct segment on the tuple -/
private theorem tuple_accepts_direct {eth pkt : Bytes} {target localA : Bytes} {tport lport n : Nat}
    (hlen : eth.length = 14) (het : u16 eth 12 = some 0x0800)
    (h : SigTcpOn (pkt.take n) target tport localA lport) :
    accepts (tcpTuple (beNat target) (beNat localA) tport lport) (eth ++ pkt) = true := by
  obtain ⟨v, hv, hp, h6, hf, rfl, rfl⟩ := h
  obtain ⟨b0, ff, g⟩ := view4_spec hv
  have hfr : ff % 16384 = 0 := g.frag.symm.trans hf
  obtain ⟨hx, hy⟩ := portsAt_some hp
  apply c12_tuple_covers_ip (beNat v.outerSrc) (beNat v.outerDst) tport lport eth pkt b0 ff hlen het
    (take_u8 g.first) (take_u16 g.flags) (by omega) (take_u8 (h6 ▸ g.proto))
    (take_u32 (u32_of_raw g.src)) (take_u32 (u32_of_raw g.dst))
  · rw [Nat.mul_comm]; exact take_u16 (g.l4 ▸ hx)
  · rw [Nat.mul_comm]; exact take_u16 (g.l4 ▸ hy)

/-- **TCP SYN**: every packet the TCP matcher turns into a hop — a time-exceeded quoting a probe,
    or a SYN-ACK / RST of the target — passes the tuple filter `Src = target:port,
    Dst = local:port` that `TCPv4.Traceroute` installs (`c12_sites_config`). -/
theorem c12_compose_tcp {s : TcpSt} {pkt eth : Bytes} {t : Nat} {a : Bytes} {d : Bool} {tm : Nat}
    (hlen : eth.length = 14) (het : u16 eth 12 = some 0x0800)
    (hv4 : ∃ b0, u8 (pkt.take bufSize) 0 = some b0 ∧ b0 / 16 = 4)
    (h : tcpRecv s pkt = .accept t a d tm) :
    accepts (tcpTuple (beNat s.cfg.target) (beNat s.cfg.localA) s.cfg.tport s.cfg.lport) (eth ++ pkt) = true := by
  have g := tcp_sound h hv4
  cases d
  · exact c12_tuple_covers_icmp_ip _ _ _ _ eth pkt hlen het (take_u8 (sigQuoted_proto (sig_tcpQuoted g)))
  · exact tuple_accepts_direct hlen het (sig_tcpDirect g)

/-- **SACK, probing phase**: every packet the SACK matcher turns into a hop passes the tuple
    filter `Src = target, Dst = local` installed after the handshake. -/
theorem c12_compose_sack {s : SackSt} {pkt eth : Bytes} {t : Nat} {a : Bytes} {d : Bool} {tm : Nat}
    (hlen : eth.length = 14) (het : u16 eth 12 = some 0x0800)
    (hv4 : ∃ b0, u8 (pkt.take bufSize) 0 = some b0 ∧ b0 / 16 = 4)
    (h : sackRecv s pkt = .accept t a d tm) :
    accepts (tcpTuple (beNat s.cfg.target) (beNat s.cfg.localA) s.cfg.tport s.cfg.lport) (eth ++ pkt) = true := by
  rcases genuineSack_iff.mp (sack_sound h hv4) with g | ⟨_, g⟩
  · exact c12_tuple_covers_icmp_ip _ _ _ _ eth pkt hlen het (take_u8 (sigQuoted_proto (sig_sackQuoted g)))
  · exact tuple_accepts_direct hlen het (sig_sackDirect g)

/-- **ICMP/IPv6, partial**: a packet the ICMPv6 matcher turns into a hop passes the ICMP filter
    when the ICMPv6 message directly follows the IPv6 header. -/
theorem c12_compose_icmp6_partial {s : IcmpSt} {pkt eth : Bytes} {t : Nat} {a : Bytes} {d : Bool} {tm : Nat}
    (hlen : eth.length = 14) (het : u16 eth 12 = some 0x86dd) (hmin : 1 ≤ s.cfg.min)
    (hv6 : ∃ b0, u8 (pkt.take bufSize) 0 = some b0 ∧ b0 / 16 = 6)
    (hdirect : u8 (pkt.take bufSize) 6 ≠ some 0)
    (h : icmpRecv s pkt = .accept t a d tm) :
    accepts icmp (eth ++ pkt) = true := by
  have h58 : u8 (pkt.take bufSize) 6 = some 58 := by
    rcases sig_icmp6 (icmp6_sound hmin h hv6) with hq | he
    · exact sigQuoted6_next hq hdirect
    · exact sigEcho6_next he hdirect
  exact c12_icmp_covers_ip eth pkt hlen (Or.inr (Or.inl ⟨het, take_u8 h58⟩))

/-- **UDP/IPv6, partial**: likewise for the UDP variant over IPv6. -/
theorem c12_compose_udp6_partial {s : UdpSt} {pkt eth : Bytes} {t : Nat} {a : Bytes} {d : Bool} {tm : Nat}
    (hlen : eth.length = 14) (het : u16 eth 12 = some 0x86dd)
    (hinv : UdpInv s) (h6 : s.cfg.target.length ≠ 4)
    (hv6 : ∃ b0, u8 (pkt.take bufSize) 0 = some b0 ∧ b0 / 16 = 6)
    (hdirect : u8 (pkt.take bufSize) 6 ≠ some 0)
    (h : udpRecv s pkt = .accept t a d tm) :
    accepts icmp (eth ++ pkt) = true := by
  have h58 := sigQuoted6_next (sig_udp6 (udp6_sound h hv6)) hdirect
  exact c12_icmp_covers_ip eth pkt hlen (Or.inr (Or.inl ⟨het, take_u8 h58⟩))

/-- the full IPv6 statement: no restriction on extension headers -/
def c12_compose_icmp6_full : Prop :=
  ∀ (s : IcmpSt) (pkt eth : Bytes) (t : Nat) (a : Bytes) (d : Bool) (tm : Nat),
    eth.length = 14 → u16 eth 12 = some 0x86dd → 1 ≤ s.cfg.min →
    (∃ b0, u8 (pkt.take bufSize) 0 = some b0 ∧ b0 / 16 = 6) →
    icmpRecv s pkt = .accept t a d tm → accepts icmp (eth ++ pkt) = true

private def f12Local : Bytes := [0x20, 0x01, 0x0d, 0xb8, 0, 0, 0, 0, 0, 0, 0, 0, 0, 0, 0, 1]
private def f12Target : Bytes := [0x20, 0x01, 0x0d, 0xb8, 0, 0, 0, 0, 0, 0, 0, 0, 0, 0, 0, 9]
private def f12Cfg : IcmpCfg := { localA := f12Local, target := f12Target, echoId := 0x616b, min := 1, max := 8 }
private def f12St : IcmpSt := { cfg := f12Cfg, sent := [{ ttl := 5, id := 0x616b, seq := 5, time := 10 }] }
/-- echo reply of the target for sequence number 5, travelling behind a hop-by-hop header that
    carries one PadN option: IPv6 (next header 0) ++ HBH (next 58, length 0, PadN 4) ++ ICMPv6 129 -/
private def f12Pkt : Bytes :=
  [0x60, 0, 0, 0, 0, 16, 0, 57] ++ f12Target ++ f12Local ++
  [58, 0, 1, 4, 0, 0, 0, 0] ++ [129, 0, 0, 0, 0x61, 0x6b, 0, 5]
private def f12Eth : Bytes := [2, 0, 0, 0, 0, 1, 2, 0, 0, 0, 0, 2, 0x86, 0xdd]

/-- **Finding F12**: the full statement is false.  Witness: the echo reply above is turned into the
    destination hop by the matcher and dropped by the ICMP filter (the harness replays such frames
    on the real driver, the real program in x/net/bpf's VM and the kernel: stream `compose`). -/
theorem c12_compose_icmp6_full_false : ¬ c12_compose_icmp6_full := by
  intro h
  have := h f12St f12Pkt f12Eth 5 f12Target true 10 (by decide) (by decide) (by decide)
    ⟨0x60, by decide, by decide⟩ (by decide)
  rw [c12_icmp_exact] at this
  revert this
  decide

/-- **Frame level, IPv4**: if the capture source hands the packet `pkt` up for the frame `f`
    (`stripEthernetHeader`), the frame's EtherType is IPv4, and a matcher turns `pkt` into a hop,
    then the program that variant installs accepts `f` itself. -/
theorem c12_frame_compose_v4 {f pkt : Bytes} (hs : Link.strip f = .packet pkt) (het : u16 f 12 = some 0x0800) :
    (∀ (s : IcmpSt) t a d tm, (∃ b0, u8 pkt 0 = some b0 ∧ b0 / 16 = 4) →
        icmpRecv s pkt = .accept t a d tm → accepts icmp f = true) ∧
    (∀ (s : UdpSt) t a d tm, UdpInv s → s.cfg.target.length = 4 →
        (∃ b0, u8 (pkt.take bufSize) 0 = some b0 ∧ b0 / 16 = 4) →
        udpRecv s pkt = .accept t a d tm → accepts icmp f = true) ∧
    (∀ (s : TcpSt) t a d tm, (∃ b0, u8 (pkt.take bufSize) 0 = some b0 ∧ b0 / 16 = 4) →
        tcpRecv s pkt = .accept t a d tm →
        accepts (tcpTuple (beNat s.cfg.target) (beNat s.cfg.localA) s.cfg.tport s.cfg.lport) f = true) ∧
    (∀ (s : SackSt) t a d tm, (∃ b0, u8 (pkt.take bufSize) 0 = some b0 ∧ b0 / 16 = 4) →
        sackRecv s pkt = .accept t a d tm →
        accepts (tcpTuple (beNat s.cfg.target) (beNat s.cfg.localA) s.cfg.tport s.cfg.lport) f = true) := by
  obtain ⟨eth, hlen, _, rfl⟩ := TRV.Proofs.Link.strip_packet_iff.mp hs
  rw [u16_append_left (by omega)] at het
  exact ⟨fun s t a d tm hv h => c12_compose_icmp4 hlen het hv h,
    fun s t a d tm _ _ hv h => c12_compose_udp4 hlen het hv h,
    fun s t a d tm hv h => c12_compose_tcp hlen het hv h,
    fun s t a d tm hv h => c12_compose_sack hlen het hv h⟩

/-- the frame-level statement without the EtherType hypothesis -/
def c12_frame_compose_full : Prop :=
  ∀ (f pkt : Bytes) (s : IcmpSt) (t : Nat) (a : Bytes) (d : Bool) (tm : Nat),
    Link.strip f = .packet pkt → (∃ b0, u8 pkt 0 = some b0 ∧ b0 / 16 = 4) →
    icmpRecv s pkt = .accept t a d tm → accepts icmp f = true

private def f12bCfg : IcmpCfg := { localA := [192, 0, 2, 2], target := [198, 51, 100, 9], echoId := 0x4230, min := 1, max := 8 }
private def f12bSt : IcmpSt := { cfg := f12bCfg, sent := [{ ttl := 1, id := 0x4230, seq := 1, time := 10 }] }
/-- echo reply of the target for sequence number 1 — an IPv4 packet -/
private def f12bPkt : Bytes :=
  [0x45, 0, 0, 28, 0, 0, 0, 0, 57, 1, 0, 0] ++ [198, 51, 100, 9] ++ [192, 0, 2, 2] ++ [0, 0, 0, 0, 0x42, 0x30, 0, 1]
/-- … behind an Ethernet header whose EtherType says IPv6 -/
private def f12bFrame : Bytes := [2, 0, 0, 0, 0, 1, 2, 0, 0, 0, 0, 2, 0x86, 0xdd] ++ f12bPkt

/-- **Finding F12b**: the full frame-level statement is false.  The capture source hands up the
    packet of a frame whose EtherType names the other IP version (it only requires an IP EtherType),
    the matcher goes by the version nibble and accepts, the filter dispatches on the EtherType and
    drops (replayed on the real code by the `compose` stream, framing
    `ethertype-of-the-other-ip-version`). -/
theorem c12_frame_compose_full_false : ¬ c12_frame_compose_full := by
  intro h
  have := h f12bFrame f12bPkt f12bSt 1 [198, 51, 100, 9] true 10 (by decide) ⟨0x45, by decide, by decide⟩ (by decide)
  rw [c12_icmp_exact] at this
  revert this
  decide

/-- **Which program is attached**: after any sequence of `SetPacketFilter` calls (and frames arriving
    in between) the program attached to the capture socket is the one of the LAST call — nothing
    after `FilterTypeNone` — and every frame waiting in the socket's queue was accepted by it
    (attaching drains what was queued under the previous program). -/
theorem c12_source_attached_and_queue (evs : List (Link.Ev (List Instr))) :
    (evs.foldl (Link.Source.step accepts) { attached := none, queue := [] }).attached =
      Link.lastSet none evs ∧
    ∀ q, (evs.foldl (Link.Source.step accepts) { attached := none, queue := [] }).attached = some q →
      ∀ f ∈ (evs.foldl (Link.Source.step accepts) { attached := none, queue := [] }).queue, accepts q f = true := by
  exact ⟨Link.attached_is_last accepts evs _, Link.queue_accepted accepts evs _ (fun q hq => by simp at hq)⟩

/-! ## Non-vacuity -/

/-- the F12b packet behind the matching EtherType: handed up, accepted by the matcher, and passed by
    the filter (through the frame-level theorem) -/
example : accepts icmp ([2, 0, 0, 0, 0, 1, 2, 0, 0, 0, 0, 2, 0x08, 0x00] ++ f12bPkt) = true :=
  (c12_frame_compose_v4 (f := [2, 0, 0, 0, 0, 1, 2, 0, 0, 0, 0, 2, 0x08, 0x00] ++ f12bPkt) (pkt := f12bPkt)
    (by decide) (by decide)).1 f12bSt 1 [198, 51, 100, 9] true 10 ⟨0x45, by decide, by decide⟩ (by decide)


/-- the same echo reply directly behind the IPv6 header: accepted by the matcher, and then (by the
    partial theorem) by the filter -/
private def f12PktDirect : Bytes :=
  [0x60, 0, 0, 0, 0, 8, 58, 57] ++ f12Target ++ f12Local ++ [129, 0, 0, 0, 0x61, 0x6b, 0, 5]

example : icmpRecv f12St f12PktDirect = .accept 5 f12Target true 10 := by decide

example : accepts icmp (f12Eth ++ f12PktDirect) = true :=
  c12_compose_icmp6_partial (s := f12St) (t := 5) (a := f12Target) (d := true) (tm := 10)
    (by decide) (by decide) (by decide) ⟨0x60, by decide, by decide⟩ (by decide) (by decide)

#print axioms c12_compose_icmp4
#print axioms c12_compose_udp4
#print axioms c12_compose_tcp
#print axioms c12_compose_sack
#print axioms c12_compose_icmp6_partial
#print axioms c12_compose_udp6_partial
#print axioms c12_compose_icmp6_full_false
#print axioms c12_frame_compose_v4
#print axioms c12_frame_compose_full_false
#print axioms c12_source_attached_and_queue

end TRV.Props.C12
