import TRV.Proofs.Probe
import TRV.Proofs.Send
import TRV.Proofs.EngineLTS
import TRV.Model.Drivers
import TRV.Proofs.Pacing
/-!
# C06 — Probe emission: well-formed, right TTL, constant flow, unique ids, ordered, stops

* `c06_*_wf`: every probe builder (gopacket `SerializeLayers` with FixLengths+ComputeChecksums,
  re-derived in `TRV.Build`) yields, for EVERY TTL 1..255, every address, port, identifier base and
  sequence number, a packet satisfying the raw-byte well-formedness predicate of `TRV.Spec.Probe`:
  version/IHL, total (payload) length = actual length, TTL/hop limit = the probed TTL, protocol,
  source/destination addresses and ports = the configuration (hence constant for the whole run),
  IPv4 header checksum and ICMP/UDP/TCP checksum (with pseudo-header) verifying.
* `c06_id_injective_*`: the per-probe identifier of each deterministic scheme is injective on
  TTL 0..255, at every base (wrap-around included).
* `c06_order`, `c06_one_per_ttl`, `c06_stop_after_dest`: in every reachable state of the
  interleaving model of the parallel engine the probes emitted so far are exactly
  `min, min+1, …` (increasing, no repetition) and at most one probe is emitted after the receiver
  has seen a destination reply.
* `c06_paced_parallel`, `c06_paced_serial`, `c06_paced_pairwise`: pacing.  In the timed models of both
  engines (`TRV.Timed.parallelT` / `serialT`: `SendProbe` for TTL `i` lasts `sd i`, any script of
  `ReceiveProbe` outcomes and durations, any cancellation instant, send failures) the emissions are
  `(min, t₀), (min+1, t₁), …` with `tⱼ + SendDelay ≤ tⱼ₊₁` — measured between the instants at which
  consecutive `SendProbe` calls START, so a slow send never shortens the next gap — and any two
  emissions `k` TTLs apart are at least `k · SendDelay` apart.  The timed models are tied to the real
  engines on the virtual clock by the send-time comparison of C05/C08 (`TestC05`/`TestC08`, scripted
  send durations included) and the spacing is measured again on the real engines by `TestC06`.
-/
namespace TRV.Props.C06
open TRV TRV.Build TRV.Spec TRV.Proofs TRV.LTS TRV.Drv

theorem c06_icmp4_wf {src dst : Bytes} {echoId ttl : Nat} (hs : src.length = 4) (hd : dst.length = 4)
    (hid : echoId < 65536) (httl : ttl < 256) :
    wfIcmp4 (Build.icmp4 src dst echoId ttl) src dst echoId ttl = true := icmp4_wf hs hd hid httl

theorem c06_icmp6_wf {src dst : Bytes} {echoId ttl : Nat} (hs : src.length = 16) (hd : dst.length = 16)
    (hid : echoId < 65536) (httl : ttl < 256) :
    wfIcmp6 (Build.icmp6 src dst echoId ttl) src dst echoId ttl = true := icmp6_wf hs hd hid httl

theorem c06_udp4_wf {src dst : Bytes} {sport dport ttl : Nat} (hs : src.length = 4) (hd : dst.length = 4)
    (hsp : sport < 65536) (hdp : dport < 65536) (httl : ttl < 256) :
    wfUdp4 (Build.udp4 src dst sport dport ttl) src dst sport dport ttl = true := udp4_wf hs hd hsp hdp httl

theorem c06_udp6_wf {src dst : Bytes} {sport dport ttl : Nat} (hs : src.length = 16) (hd : dst.length = 16)
    (hsp : sport < 65536) (hdp : dport < 65536) (httl : ttl < 256) :
    wfUdp6 (Build.udp6 src dst sport dport ttl) src dst sport dport ttl = true := udp6_wf hs hd hsp hdp httl

theorem c06_tcpSyn_wf {src dst : Bytes} {sport dport id seq ttl : Nat} (hs : src.length = 4) (hd : dst.length = 4)
    (hsp : sport < 65536) (hdp : dport < 65536) (hid : id < 65536) (hseq : seq < 4294967296) (httl : ttl < 256) :
    wfTcpSyn (Build.tcpSyn src dst sport dport id seq ttl) src dst sport dport id seq ttl = true :=
  tcpSyn_wf hs hd hsp hdp hid hseq httl

theorem c06_sack_wf {src dst : Bytes} {sport dport isn ack ttl : Nat} {ts : Option (Nat × Nat)}
    (hs : src.length = 4) (hd : dst.length = 4) (hsp : sport < 65536) (hdp : dport < 65536)
    (hack : ack < 4294967296) (httl : ttl < 256) (hts : ∀ v e, ts = some (v, e) → e < 4294967296) :
    wfSack (Build.sack src dst sport dport isn ack ttl ts) src dst sport dport ((isn + ttl) % 4294967296) ack ttl = true :=
  sack_wf hs hd hsp hdp hack httl

/-- what the ICMP driver model hands to the sink is the well-formed probe for its configuration -/
theorem c06_icmp_send_wf {s s' : IcmpSt} {ttl now : Nat} {pkt : Bytes}
    (h4 : s.cfg.localA.length = 4 ∧ s.cfg.target.length = 4) (hid : s.cfg.echoId < 65536) (hmax : s.cfg.max ≤ 255)
    (h : icmpSend s ttl now = .ok s' pkt) :
    wfIcmp4 pkt s.cfg.localA s.cfg.target s.cfg.echoId ttl = true ∧ s.cfg.min ≤ ttl ∧ ttl ≤ s.cfg.max := by
  obtain ⟨hmin, hle, _, _, rfl⟩ := icmpSend_ok h
  rw [if_neg (by omega)]
  exact ⟨icmp4_wf h4.1 h4.2 hid (by omega), hmin, hle⟩

/-- UDP/IPv4 identifier 41821 + t (mod 2^16) is injective on TTLs 0..255 -/
theorem c06_id_injective_udp4 {t t' : Nat} (ht : t ≤ 255) (ht' : t' ≤ 255) (h : udp4Id t = udp4Id t') : t = t' := by
  unfold udp4Id at h; omega

/-- UDP/IPv6 identifier (payload length 13 + t) is injective -/
theorem c06_id_injective_udp6 {t t' : Nat} (h : udp6Id t = udp6Id t') : t = t' := by
  unfold udp6Id at h; omega

/-- TCP default mode: IP id = base + t (mod 2^16) is injective on TTLs 0..255 for EVERY base -/
theorem c06_id_injective_tcp (cfg : TcpCfg) (hp : cfg.paris = false) {t t' r r' : Nat} (ht : t ≤ 255) (ht' : t' ≤ 255)
    (h : (tcpIds cfg t r).1 = (tcpIds cfg t' r').1) : t = t' := by
  unfold tcpIds at h
  simp only [hp, Bool.false_eq_true, if_false] at h
  omega

/-- TCP Paris mode: the per-probe identifier is the (random) sequence number; distinct draws give
    distinct identifiers (uniqueness holds up to 32-bit collisions of the draws, as C06 states) -/
theorem c06_id_paris (cfg : TcpCfg) (hp : cfg.paris = true) {t t' r r' : Nat} (hr : r ≠ r') :
    (tcpIds cfg t r).2 ≠ (tcpIds cfg t' r').2 := by
  unfold tcpIds; simp [hp, hr]

/-- SACK: sequence number ISN + t (mod 2^32) is injective on TTLs 0..255 for EVERY ISN -/
theorem c06_id_injective_sack {isn t t' : Nat} (ht : t ≤ 255) (ht' : t' ≤ 255)
    (h : (isn + t) % 4294967296 = (isn + t') % 4294967296) : t = t' := by omega

/-- ICMP: the sequence number IS the TTL -/
theorem c06_id_injective_icmp {s : IcmpSt} {t t' now : Nat} {s1 s2 : IcmpSt} {p1 p2 : Bytes}
    (h1 : icmpSend s t now = .ok s1 p1) (h2 : icmpSend s1 t' now = .ok s2 p2) : t ≠ t' := by
  obtain ⟨_, _, _, rfl, _⟩ := icmpSend_ok h1
  obtain ⟨_, _, hf, _, _⟩ := icmpSend_ok h2
  rintro rfl
  simp [IcmpSt.find, List.find?_append] at hf

/-- order: in every reachable state of the interleaving model the probes sent so far are exactly
    min, min+1, …, next−1 in this order -/
theorem c06_order {minT maxT : Nat} {s : St} (hv : minT ≤ maxT) (h : Reach minT maxT s) :
    s.sends.reverse = List.range' minT (s.next - minT) ∧ s.next ≤ maxT + 1 := by
  obtain ⟨h1, _, _, h4⟩ := sends_in_order hv h
  exact ⟨by rw [h1]; simp, h4⟩

/-- at most one probe per TTL -/
theorem c06_one_per_ttl {minT maxT : Nat} {s : St} (hv : minT ≤ maxT) (h : Reach minT maxT s) :
    s.sends.Nodup := by
  rw [(sends_in_order hv h).1, List.Nodup, List.pairwise_reverse]
  exact List.Pairwise.imp Ne.symm List.nodup_range'

/-- none after the destination answer was seen, one already in flight excepted -/
theorem c06_stop_after_dest {minT maxT : Nat} {s : St} (h : Reach minT maxT s) : s.sendsAfterCancel ≤ 1 :=
  (sends_after_cancel h).1

/-- pacing, parallel engine: TTLs go up by one from the first TTL and consecutive `SendProbe` calls
    start at least `SendDelay` apart, for every script, send duration, failure and cancellation -/
theorem c06_paced_parallel (c : Timed.Cfg) (cancel : Option Nat) (sd : Nat → Nat) (sfail : Nat → Bool)
    (start : Nat) (script : List Timed.RCall) :
    Paced c.delay (Timed.parallelT c cancel sd sfail start script).sends ∧
    ∀ a ∈ (Timed.parallelT c cancel sd sfail start script).sends.head?, a.1 = c.min ∧ start ≤ a.2 :=
  parallelT_paced c cancel sd sfail start script

/-- pacing, serial engine: the same of `TracerouteSerial`, whose next `SendProbe` waits for the end of
    the TTL's receive window AND for `<-sendDelay`, armed before the previous send -/
theorem c06_paced_serial (c : Timed.Cfg) (cancel : Option Nat) (sd : Nat → Nat) (sfail : Nat → Bool)
    (start : Nat) (script : List Timed.RCall) :
    Paced c.delay (Timed.serialT c cancel sd sfail start script).sends ∧
    ∀ a ∈ (Timed.serialT c cancel sd sfail start script).sends.head?, a.1 = c.min ∧ start ≤ a.2 :=
  serialT_paced c cancel sd sfail start script

/-- pairwise form of `Paced`: emissions `k` positions apart are `k` TTLs and ≥ `k · d` apart -/
theorem c06_paced_pairwise {d : Nat} (l : List (Nat × Nat)) (j k : Nat) (a b : Nat × Nat)
    (hp : Paced d l) (ha : l[j]? = some a) (hb : l[j + k]? = some b) : b.1 = a.1 + k ∧ a.2 + k * d ≤ b.2 := by
  induction l generalizing j k a b with
  | nil => simp at ha
  | cons x rest ih =>
    cases j with
    | succ j =>
      rw [show j + 1 + k = (j + k) + 1 by omega] at hb
      exact ih j k a b hp.tail (by simpa using ha) (by simpa using hb)
    | zero =>
      simp at ha; subst ha
      cases k with
      | zero => simp at hb; subst hb; simp
      | succ k =>
        cases rest with
        | nil => simp at hb
        | cons y r =>
          obtain ⟨h1, h2, h3⟩ := hp
          have := ih 0 k y b h3 (by simp) (by simpa using hb)
          have e : (k + 1) * d = k * d + d := by rw [Nat.add_mul]; simp
          omega

/-- non-vacuity: a 4-hop parallel run with a slow second send (7 ms against a 5 ms delay) emits
    four probes, the gap after the slow one is NOT shortened -/
example :
    (Timed.parallelT { min := 1, max := 4, timeout := 100, delay := 5, poll := 1 } none
        (fun i => if i = 2 then 7 else 0) (fun _ => false) 0 []).sends = [(1, 0), (2, 5), (3, 17), (4, 22)] := by
  decide +kernel

#print axioms c06_paced_parallel
#print axioms c06_paced_serial
#print axioms c06_paced_pairwise
#print axioms c06_icmp4_wf
#print axioms c06_icmp6_wf
#print axioms c06_udp4_wf
#print axioms c06_udp6_wf
#print axioms c06_tcpSyn_wf
#print axioms c06_sack_wf
#print axioms c06_icmp_send_wf
#print axioms c06_id_injective_udp4
#print axioms c06_id_injective_udp6
#print axioms c06_id_injective_tcp
#print axioms c06_id_paris
#print axioms c06_id_injective_sack
#print axioms c06_id_injective_icmp
#print axioms c06_order
#print axioms c06_one_per_ttl
#print axioms c06_stop_after_dest
end TRV.Props.C06
