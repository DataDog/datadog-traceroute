import TRV.Proofs.Sound
import TRV.Proofs.Send
import TRV.Proofs.Engine
import TRV.Proofs.OwnProbe
import TRV.Proofs.Probe
/-!
# C01 — Attribution soundness: only a genuine reply to probe t can fill hop t

Matcher level, on the RAW BYTES of the packet the driver read (`pkt.take bufSize`): whenever a
driver model returns `accept t a dest sentAt`, the executable reference predicate
`Spec.genuine*` — fields read at RFC offsets, independently of the layered parser — holds: the
packet was sent by `a` and is an ICMP error quoting this run's probe for TTL `t` (addresses, ports,
per-probe identifier at full width, `t` among the probes sent so far) or a direct reply on the
probe's own flow.  All packets of all lengths, all configurations (identifier bases and sequence
numbers at wrap-around included: the arithmetic is modulo 2^16 / 2^32 as in the code), all
reachable driver states.

Run level: the engines only ever put accepted outcomes into the hop list (`c01_run_only_accepted`).

To build on the matcher level use `Proofs.*_sound` (`Proofs/Sound.lean`), as C04, C11 and C12 do: the
same statements without the hypotheses that are idle here (`UdpInv`, the target's length).
-/
namespace TRV.Props.C01
open TRV TRV.Wire TRV.Drv TRV.Spec TRV.Proofs TRV.Engine

/-- ICMP over IPv4 (time-exceeded quoting our echo request, or echo reply from the target) -/
theorem c01_icmp4_sound {s : IcmpSt} {pkt : Bytes} {t : Nat} {a : Bytes} {d : Bool} {tm : Nat}
    (h : icmpRecv s pkt = .accept t a d tm) (hv4 : ∃ b0, u8 pkt 0 = some b0 ∧ b0 / 16 = 4) :
    genuineIcmp4 s.cfg s.sent t a d (pkt.take bufSize) = true :=
  icmp4_sound h (version_take hv4)

/-- ICMP over IPv6, full strength: no restriction on the quoted header.  (Since the fix for F11 the
    driver demands that the quoted next-header field is ICMPv6, so a quote with an extension header —
    which no probe of this tool carries — is never accepted; without that check the statement holds
    only for packets whose quoted IPv6 header has no hop-by-hop header.) -/
theorem c01_icmp6_sound {s : IcmpSt} {pkt : Bytes} {t : Nat} {a : Bytes} {d : Bool} {tm : Nat}
    (hmin : 1 ≤ s.cfg.min) (h : icmpRecv s pkt = .accept t a d tm)
    (hv6 : ∃ b0, u8 (pkt.take bufSize) 0 = some b0 ∧ b0 / 16 = 6) :
    genuineIcmp6 s.cfg s.sent t a d (pkt.take bufSize) = true :=
  icmp6_sound hmin h hv6

/-- UDP over IPv4, strict and relaxed source checking.  The statement carries `hinv` and `h4`, the
    proof uses neither: it holds of every state, reachable by sends or not. -/
theorem c01_udp4_sound {s : UdpSt} {pkt : Bytes} {t : Nat} {a : Bytes} {d : Bool} {tm : Nat}
    (hinv : UdpInv s) (h4 : s.cfg.target.length = 4) (h : udpRecv s pkt = .accept t a d tm)
    (hv4 : ∃ b0, u8 (pkt.take bufSize) 0 = some b0 ∧ b0 / 16 = 4) :
    genuineUdp4 s.cfg s.sent t a d (pkt.take bufSize) = true :=
  udp4_sound h hv4

/-- UDP over IPv6 (ICMPv6 error quoting our datagram; the quoted payload length is the per-probe
    identifier).  `hinv` and `h6` are idle as in the IPv4 statement. -/
theorem c01_udp6_sound {s : UdpSt} {pkt : Bytes} {t : Nat} {a : Bytes} {d : Bool} {tm : Nat}
    (hinv : UdpInv s) (h6 : s.cfg.target.length ≠ 4) (h : udpRecv s pkt = .accept t a d tm)
    (hv6 : ∃ b0, u8 (pkt.take bufSize) 0 = some b0 ∧ b0 / 16 = 6) :
    genuineUdp6 s.cfg s.sent t a d (pkt.take bufSize) = true :=
  udp6_sound h hv6

/-- the invariant that the two UDP statements carry (their proofs do not use it) holds in every
    state reachable by `SendProbe` calls -/
theorem c01_udp_inv_reachable (cfg : UdpCfg) (ops : List (Nat × Nat)) :
    UdpInv (ops.foldl (fun s op => match udpSend s op.1 op.2 with | .ok s' _ => s' | .err => s) { cfg, sent := [] }) := by
  refine List.foldlRecOn (motive := UdpInv) ops _ (udpInv_init cfg) fun s hs op _ => ?_
  cases hsend : udpSend s op.1 op.2 with
  | ok s' pkt => exact udpInv_send hs hsend
  | err => exact hs

/-- TCP SYN, default and Paris mode: a time-exceeded is credited to the probe whose (IP id, sequence
    number) it quotes; a SYN-ACK / RST from the target port is credited to the LAST sent probe (the
    caveat that is part of C01), never to an earlier one -/
theorem c01_tcp_sound {s : TcpSt} {pkt : Bytes} {t : Nat} {a : Bytes} {d : Bool} {tm : Nat}
    (h : tcpRecv s pkt = .accept t a d tm) (hv4 : ∃ b0, u8 (pkt.take bufSize) 0 = some b0 ∧ b0 / 16 = 4) :
    genuineTcp s.cfg s.sent t a d (pkt.take bufSize) = true :=
  tcp_sound h hv4

/-- TCP SACK: time-exceeded quoting sequence number ISN + t (mod 2^32), or a selective ACK from
    the target whose smallest relative left edge is t -/
theorem c01_sack_sound {s : SackSt} {pkt : Bytes} {t : Nat} {a : Bytes} {d : Bool} {tm : Nat}
    (h : sackRecv s pkt = .accept t a d tm) (hv4 : ∃ b0, u8 (pkt.take bufSize) 0 = some b0 ∧ b0 / 16 = 4) :
    genuineSack s.cfg s.sent t a d (pkt.take bufSize) = true :=
  sack_sound h hv4

/-- a reply is only ever attributed to a TTL that has been probed: the accepted TTL has a recorded
    send — "a TTL not yet probed never creates a hop".  Stated for ICMP over IPv4; `*Recv_credit` of
    `Proofs/Accept.lean` say the same of the other drivers. -/
theorem c01_only_sent_ttls_icmp {s : IcmpSt} {pkt : Bytes} {t : Nat} {a : Bytes} {d : Bool} {tm : Nat}
    (h : icmpRecv s pkt = .accept t a d tm) (hv4 : ∃ b0, u8 pkt 0 = some b0 ∧ b0 / 16 = 4) :
    ∃ p ∈ s.sent, p.ttl = t ∧ p.time = tm :=
  icmpRecv_credit h

/-- the tool's own outgoing probes, which the capture handle also sees, never create a hop:
    ICMP/IPv4 echo request, UDP/IPv4 datagram, TCP SYN — for every TTL, address, port, identifier -/
theorem c01_own_probe_ignored_icmp4 (s : IcmpSt) {src dst : Bytes} {echoId ttl : Nat} (hs : src.length = 4)
    (hd : dst.length = 4) (hid : echoId < 65536) (httl : ttl < 256) :
    icmpRecv s (Build.icmp4 src dst echoId ttl) = .retry :=
  -- the ICMP type is the first byte behind the header
  icmpRecv_echoRequest s (ip4Header_bytes (by decide)).1
    ((u8_append_right (ip4Header_length hs hd) (off := 0)).trans rfl)

theorem c01_own_probe_ignored_udp4 (s : UdpSt) {src dst : Bytes} {sport dport ttl : Nat} (hs : src.length = 4)
    (hd : dst.length = 4) (hsp : sport < 65536) (hdp : dport < 65536) (httl : ttl < 256) :
    udpRecv s (Build.udp4 src dst sport dport ttl) = .retry :=
  have ⟨h0, h9⟩ := ip4Header_bytes (proto := 17) (by decide)
  udpRecv_undecoded s h0 h9 (by decide)

theorem c01_own_probe_ignored_tcp (s : TcpSt) {src dst : Bytes} {sport dport id seq ttl : Nat} (hs : src.length = 4)
    (hd : dst.length = 4) (hsp : sport < 65536) (hdp : dport < 65536) (hid : id < 65536) (hseq : seq < 4294967296)
    (httl : ttl < 256) :
    tcpRecv s (Build.tcpSyn src dst sport dport id seq ttl) = .retry :=
  have ⟨h0, h9⟩ := ip4Header_bytes (proto := 6) (by decide)
  have ⟨_, _, _, _, _, hflags, _⟩ := tcpSeg_fields _ _ _ _ _ hsp hdp hseq (by decide) (by decide) (by decide)
  tcpRecv_syn s h0 h9 ((u8_append_right (ip4Header_length hs hd) (off := 13)).trans hflags)

/-- run level: every filled slot of a parallel run's result is one of the accepted outcomes (the
    engine never invents or alters a hop) -/
theorem c01_run_only_accepted {min max : Nat} {outs : List ROut} {r : List (Option Probe)} {p : Probe}
    (h : parallelRun min max true outs false false = .ok r) (hp : some p ∈ r) : p ∈ accepted outs := by
  obtain ⟨rfl, -⟩ := parallel_result h
  simp only [expected, List.mem_map] at hp
  obtain ⟨t, _, ht⟩ := hp
  exact (best_some ht).1

/-- non-vacuity: a concrete genuine time-exceeded (router 10.9.8.7, TTL 3, echo id 0x1234) is
    accepted by the ICMP model and satisfies the reference predicate; the same packet with sequence
    number 259 (= 3 mod 256) is rejected -/
example :
    let cfg : IcmpCfg := { localA := [192,0,2,2], target := [198,51,100,9], echoId := 0x1234, min := 1, max := 30 }
    let st : IcmpSt := { cfg, sent := [{ ttl := 3, id := 0x1234, seq := 3, time := 100 }] }
    let quote (seq : Nat) : Bytes := Build.ip4Header 0 29 0x1234 0 1 1 [192,0,2,2] [198,51,100,9] ++
        [8, 0, 0, 0] ++ be16 0x1234 ++ be16 seq
    let te (seq : Nat) : Bytes := Build.ip4Header 0xc0 56 0 0 250 1 [10,9,8,7] [192,0,2,2] ++ [11, 0, 0, 0, 0, 0, 0, 0] ++ quote seq
    icmpRecv st (te 3) = .accept 3 [10,9,8,7] false 100 ∧
    genuineIcmp4 cfg st.sent 3 [10,9,8,7] false (te 3) = true ∧
    icmpRecv st (te 259) = .retry := by decide

#print axioms c01_icmp4_sound
#print axioms c01_icmp6_sound
#print axioms c01_udp4_sound
#print axioms c01_udp6_sound
#print axioms c01_udp_inv_reachable
#print axioms c01_tcp_sound
#print axioms c01_sack_sound
#print axioms c01_only_sent_ttls_icmp
#print axioms c01_own_probe_ignored_icmp4
#print axioms c01_own_probe_ignored_udp4
#print axioms c01_own_probe_ignored_tcp
#print axioms c01_run_only_accepted
end TRV.Props.C01
