import TRV.Model.Drivers
import TRV.Generated.LogicSack
import TRV.Generated.LogicCommon
import TRV.Proofs.MinSack
import TRV.Proofs.TieCommon
/-!
# Tie theorems: the SACK matcher model equals the decision tree REGENERATED from `sack/sack_driver.go`

Same method as the other `Tie*` modules.  `tie_sack_handle`: for every driver state (with
`MaxTTL ≤ 255`, which the `uint8` parameter type guarantees) and every parsed packet, the model's
`sackRecv` (after `ReadAndParse`) is the regenerated tree of `sackDriver.handleProbeLayers`: address
pair and ports, control segments ignored, "no SACK block" = `NotSupportedError`, the relative
sequence number range-checked (`getRTTFromRelSeq`) BEFORE it is narrowed to the TTL, and the
time-exceeded arm with `seq - localInitSeq` in `uint32`.  `getMinSack` itself contains a loop and is
not translated: it stays an atom, instantiated with the model's `minSack` (characterised by
`c02_sack_min_is_least_block`, tied by the matcher streams).  ONE ITERATION of its block loop is
regenerated (`tie_getMinSack_step`), and iterating it over the SACK options computes `minSack`
(`getMinSack_loops_eq_minSack`).  `tie_sack_getRTT`: `getRTTFromRelSeq` is the model's `sackLookup`.
-/
namespace TRV.Props.TieSack
open TRV TRV.Wire TRV.Drv TRV.Logic TRV.Generated

def kindOf (k : String) : String :=
  match (LogicSack.sentinels ++ LogicCommon.sentinels.map (fun p => ("common." ++ p.1, "common." ++ p.2))).find? (·.1 = k) with
  | some p => p.2
  | none => k

def retryableKind (k : String) : Bool := k = "common.BadPacketError" || k = "common.ReceiveProbeNoPktError"

def interp (probe : Option Sent) (src : Bytes) (r : R) : Out :=
  match r.get "1" with
  | some V.nil =>
    match r.get "0.TTL", r.get "0.IsDest", r.get "0.IP", probe with
    | some (V.int t), some (V.bool d), some (V.ref ip), some p =>
      if ip = "parser.GetIPPair().0.SrcAddr" then .accept t.toNat src d p.time else .fatal
    | _, _, _, _ => .fatal
  | some (V.err k) =>
    if retryableKind (kindOf k) then .retry
    else if kindOf k = "NotSupportedError" then .notSupported
    else .fatal
  | _ => .fatal

/-- the part of `sackRecv` after a successful `ReadAndParse` -/
def handle (s : SackSt) (l3 : L3) (l4 : L4) : Out :=
  match l4 with
  | .tcp t =>
    if ¬ (l3.src = s.cfg.target ∧ l3.dst = s.cfg.localA) then .retry
    else if s.cfg.tport ≠ t.sport ∨ s.cfg.lport ≠ t.dport then .retry
    else if t.syn || t.fin || t.rst then .retry
    else match minSack s.cfg.isn t.opts with
      | none => .notSupported
      | some rel =>
        match sackLookup s rel with
        | none => .retry
        | some p => .accept rel l3.src true p.time
  | .icmp4 i =>
    if ¬ (i.type = 11 ∧ i.code = 0) then .retry
    else match icmpInfo4 i with
      | none => .retry
      | some info =>
        if info.proto ≠ 6 then .retry else
        match quotedPorts info.payload, quotedSeq info.payload with
        | some (sp, dp), some sq =>
          if ¬ (info.qdst = s.cfg.target ∧ dp = s.cfg.tport) then .retry
          else if !s.cfg.loosen ∧ ¬ (info.qsrc = s.cfg.localA ∧ sp = s.cfg.lport) then .retry
          else
            let rel := (sq + 4294967296 - s.cfg.isn % 4294967296) % 4294967296
            match sackLookup s rel with
            | none => .retry
            | some p => .accept rel l3.src (l3.src = s.cfg.target) p.time
        | _, _ => .retry
  | .icmp6 _ => .retry

theorem sackRecv_eq_handle (s : SackSt) (pkt : Bytes) :
    sackRecv s pkt = if pkt.isEmpty then .fatal else
      match parse (pkt.take bufSize) with
      | none => .retry
      | some (l3, l4) => handle s l3 l4 := by
  unfold sackRecv
  rcases parse (pkt.take bufSize) with _ | ⟨l3, _ | _ | _⟩ <;> rfl

def dInfo : ICMPInfo := ⟨0, 0, [], [], []⟩
def dTcp : TCP := ⟨0, 0, 0, 0, 0, [], []⟩

def tOf : L4 → TCP
  | .tcp t => t
  | _ => dTcp

def infoOf : L4 → Option ICMPInfo
  | .icmp4 i => icmpInfo4 i
  | _ => none

def isTE : L4 → Bool
  | .icmp4 i => decide (i.type = 11 ∧ i.code = 0)
  | _ => false

/-- relative sequence number of the quoted segment (`seq - localInitSeq` in `uint32`) -/
def relQ (s : SackSt) (l4 : L4) : Nat :=
  ((quotedSeq ((infoOf l4).getD dInfo).payload).getD 0 + 4294967296 - s.cfg.isn % 4294967296) % 4294967296

/-- the record an accepted outcome is credited to -/
def credited (s : SackSt) (l4 : L4) : Option Sent :=
  match l4 with
  | .tcp t => sackLookup s ((minSack s.cfg.isn t.opts).getD 0)
  | _ => sackLookup s (relQ s l4)

def cmp (a b : Bytes) : Int := if a = b then 0 else 1

def atoms (s : SackSt) (l3 : L3) (l4 : L4) : LogicSack.handleProbeLayers.Atoms :=
  let t := tOf l4
  let info := (infoOf l4).getD dInfo
  let ports := (quotedPorts info.payload).getD (0, 0)
  let ms := minSack s.cfg.isn t.opts
  { «parser.GetIPPair().1 == nil» := true
    «parser.GetTransportLayer()» := match l4 with | .icmp4 _ => 1 | .icmp6 _ => 2 | .tcp _ => 3
    «layers.LayerTypeTCP» := 3
    «layers.LayerTypeICMPv4» := 1
    «parser.GetIPPair().0 == s.ExpectedIPPair()» := decide (l3.src = s.cfg.target ∧ l3.dst = s.cfg.localA)
    «s.params.Target.Port()» := s.cfg.tport
    «parser.TCP.SrcPort» := t.sport
    «s.localPort» := s.cfg.lport
    «parser.TCP.DstPort» := t.dport
    «parser.TCP.SYN» := t.syn
    «parser.TCP.FIN» := t.fin
    «parser.TCP.RST» := t.rst
    «getMinSack(s.state.localInitSeq, parser.TCP.Options).0» := ms.getD 0
    «getMinSack(s.state.localInitSeq, parser.TCP.Options).1 == nil» := ms.isSome
    «s.getRTTFromRelSeq(getMinSack(s.state.localInitSeq, parser.TCP.Options).0).0» := 0
    «s.getRTTFromRelSeq(getMinSack(s.state.localInitSeq, parser.TCP.Options).0).1 == nil» := (sackLookup s (ms.getD 0)).isSome
    «parser.IsTTLExceeded()» := isTE l4
    «parser.GetICMPInfo().1 == nil» := (infoOf l4).isSome
    «parser.GetICMPInfo().0.WrappedProtocol» := info.proto
    «packets.ParseTCPFirstBytes(parser.GetICMPInfo().0.Payload).1 == nil» := (quotedPorts info.payload).isSome && (quotedSeq info.payload).isSome
    «netip.AddrPortFrom(parser.GetICMPInfo().0.ICMPPair.DstAddr, packets.ParseTCPFirstBytes(parser.GetICMPInfo().0.Payload).0.DstPort) == s.params.Target» :=
      decide (info.qdst = s.cfg.target ∧ ports.2 = s.cfg.tport)
    «s.params.LoosenICMPSrc» := s.cfg.loosen
    «netip.AddrPortFrom(parser.GetICMPInfo().0.ICMPPair.SrcAddr, packets.ParseTCPFirstBytes(parser.GetICMPInfo().0.Payload).0.SrcPort) == netip.AddrPortFrom(s.localAddr, s.localPort)» :=
      decide (info.qsrc = s.cfg.localA ∧ ports.1 = s.cfg.lport)
    «packets.ParseTCPFirstBytes(parser.GetICMPInfo().0.Payload).0.Seq» := (quotedSeq info.payload).getD 0
    «s.state.localInitSeq» := s.cfg.isn
    «s.getRTTFromRelSeq(packets.ParseTCPFirstBytes(parser.GetICMPInfo().0.Payload).0.Seq - s.state.localInitSeq).0» := 0
    «s.getRTTFromRelSeq(packets.ParseTCPFirstBytes(parser.GetICMPInfo().0.Payload).0.Seq - s.state.localInitSeq).1 == nil» := (sackLookup s (relQ s l4)).isSome
    «parser.GetIPPair().0.SrcAddr.Compare(s.params.Target.Addr())» := cmp l3.src s.cfg.target }

section
open TRV.Proofs.TieCommon

theorem kind_bad : retryable (kindIn (LogicSack.sentinels ++ commonTable) "common.BadPacketError") = true :=
  retryable_common (by simp [LogicSack.sentinels]) retryable_bad

theorem kind_nomatch :
    retryable (kindIn (LogicSack.sentinels ++ commonTable) "errPacketDidNotMatchTraceroute") = true :=
  retryable_local (n := "errPacketDidNotMatchTraceroute") (by simp [LogicSack.sentinels])

/-- `NotSupportedError` is no sentinel: it reaches the caller as itself, a kind the engines do not retry -/
theorem kind_ns2 : kindIn (LogicSack.sentinels ++ commonTable) "NotSupportedError" = "NotSupportedError" ∧
    retryable "NotSupportedError" = false := by
  simp [kindIn, retryable, commonTable, LogicSack.sentinels, LogicCommon.sentinels]

theorem interp_err (probe : Option Sent) (src : Bytes) (e : List String) (k : String) :
    interp probe src ⟨e, [("0", V.nil), ("1", V.err k)]⟩
      = if retryable (kindIn (LogicSack.sentinels ++ commonTable) k) then .retry
        else if kindIn (LogicSack.sentinels ++ commonTable) k = "NotSupportedError" then .notSupported
        else .fatal := by
  simp only [interp, get_pair]
  rfl

end

theorem interp_ok (p : Sent) (src : Bytes) (e : List String) (t rtt : Int) (d : Bool) :
    interp (some p) src ⟨e, [("0", V.ref "new common.ProbeResponse"), ("0.TTL", V.int t), ("0.IP", V.ref "parser.GetIPPair().0.SrcAddr"),
      ("0.RTT", V.int rtt), ("0.IsDest", V.bool d), ("1", V.nil)]⟩ = .accept t.toNat src d p.time := by
  simp [interp, Proofs.TieCommon.get_ok]

/-- `getRTTFromRelSeq` produces an RTT exactly when the model's `sackLookup` finds the probe -/
theorem tie_sack_getRTT (s : SackSt) (rel : Nat) (rtt : Int) :
    (LogicSack.getRTTFromRelSeq.run
      { «relSeq» := rel
        «s.params.ParallelParams.MinTTL» := s.cfg.min
        «s.params.ParallelParams.MaxTTL» := s.cfg.max
        «s.findSendTime(relSeq).IsZero()» := (s.find rel).isNone
        «time.Since(s.findSendTime(relSeq))» := rtt }).okAt "1" = (sackLookup s rel).isSome := by
  unfold LogicSack.getRTTFromRelSeq.run sackLookup
  by_cases h : rel < s.cfg.min ∨ rel > s.cfg.max
  · rcases h with h | h <;> simp [h, R.okAt, Proofs.TieCommon.get_pair]
  · have h1 : ¬ rel < s.cfg.min := by omega
    have h2 : ¬ rel > s.cfg.max := by omega
    cases s.find rel <;> simp [h1, h2, R.okAt, Proofs.TieCommon.get_pair]

attribute [local simp] interp_err interp_ok kind_bad kind_nomatch kind_ns2 infoOf Int.toNat_emod
  Proofs.TieCommon.ite_beq_zero in
/-- for every driver state with `MaxTTL ≤ 255` and every parsed packet, the model's SACK matcher is the
    decision tree regenerated from `sackDriver.handleProbeLayers` -/
theorem tie_sack_handle (s : SackSt) (hmax : s.cfg.max ≤ 255) (l3 : L3) (l4 : L4) :
    interp (credited s l4) l3.src (LogicSack.handleProbeLayers.run (atoms s l3 l4)) = handle s l3 l4 := by
  unfold LogicSack.handleProbeLayers.run
  dsimp only [atoms, credited]
  cases l4 with
  | icmp6 i => simp [handle]
  | tcp t =>
    simp only [handle, tOf, beq_iff_eq, Bool.not_true, Bool.false_eq_true, ↓reduceIte]
    by_cases hp : l3.src = s.cfg.target ∧ l3.dst = s.cfg.localA
    · by_cases h1 : s.cfg.tport = t.sport
      · by_cases h2 : s.cfg.lport = t.dport
        · by_cases hf : (t.syn || t.fin || t.rst) = true
          · simp only [hf, ↓reduceIte]
            simp [*]
          · simp only [hf]
            rcases Option.eq_none_or_eq_some (minSack s.cfg.isn t.opts) with hm | ⟨rel, hm⟩
            · simp [*]
            · rcases hl : sackLookup s rel with _ | p
              · simp [*]
              · simp [*, Proofs.TieCommon.sackLookup_low8 hmax hl]
        · simp [*]
      · simp [*]
    · simp [hp]
  | icmp4 i =>
    by_cases hte : i.type = 11 ∧ i.code = 0
    · simp only [handle, isTE, hte, beq_iff_eq, Int.reduceEq, Bool.not_true, Bool.false_eq_true, decide_true, and_self, ↓reduceIte]
      rcases hi : icmpInfo4 i with _ | info
      · simp [hi]
      · by_cases hp : info.proto = 6
        · rcases hq : quotedPorts info.payload with _ | ⟨sp, dp⟩
          · simp [*]
          · rcases hs : quotedSeq info.payload with _ | sq
            · simp [*]
            · -- `seq - localInitSeq` in `uint32`, then the low 8 bits of a value the range check let through
              have hrel : relQ s (.icmp4 i) = (sq + 4294967296 - s.cfg.isn % 4294967296) % 4294967296 := by
                simp [relQ, hi, hs]
              have hmod := Proofs.TieCommon.sub_mod sq s.cfg.isn (M := 4294967296) (by decide)
              by_cases hd : info.qdst = s.cfg.target ∧ dp = s.cfg.tport
              · by_cases hsrc : s.cfg.loosen = true ∨ (info.qsrc = s.cfg.localA ∧ sp = s.cfg.lport)
                · rcases hf : sackLookup s ((sq + 4294967296 - s.cfg.isn % 4294967296) % 4294967296) with _ | p
                  · refine hsrc.elim (fun h1 => ?_) (fun h1 => ?_) <;> simp [*]
                  · have hr := Proofs.TieCommon.sackLookup_low8 hmax hf
                    refine hsrc.elim (fun h1 => ?_) (fun h1 => ?_) <;>
                      simp [*, cmp]
                · simp [*, not_or.mp hsrc]
              · simp [*]
        · simp [*]
    · simp [handle, isTE, hte]

/-- meaning of one iteration of `for data := opt.OptionData; len(data) >= 8; data = data[8:]`:
    `none` = the loop ends; otherwise the remaining data, `foundSack` and the running minimum -/
def stepSem (isn : Nat) (data : Bytes) (m : Nat) : Option (Bytes × Bool × Nat) :=
  if data.length < 8 then none else
  match u32 data 0 with
  | some l =>
    let rel := (l + 4294967296 - isn % 4294967296) % 4294967296
    some (data.drop 8, true, Nat.min m rel)
  | none => none

/-- what the regenerated iteration returns, in those terms -/
def interpStep (data : Bytes) (m : Nat) (r : R) : Option (Bytes × Bool × Nat) :=
  if r.effects = ["loopExit()"] then none else
  match r.get "foundSack'", r.get "data'" with
  | some (V.bool f), some (V.ref t) =>
    if t = "data[8:]" then
      match r.get "minSack'" with
      | some (V.int v) => some (data.drop 8, f, v.toNat)
      | _ => some (data.drop 8, f, m)          -- not assigned on this path: unchanged
    else none
  | _, _ => none

/-- one iteration of the SACK-block loop of `getMinSack` (regenerated) is `stepSem`: the loop needs 8
    octets, reads the left edge as a big-endian 32-bit number at octet 0, makes it relative to the
    initial sequence number in `uint32`, keeps the smaller of it and the running minimum, and moves on
    by 8 octets -/
theorem tie_getMinSack_step (isn : Nat) (data : Bytes) (m : Nat) :
    interpStep data m (LogicSack.getMinSackStep.run { «data» := data, «localInitSeq» := isn, «minSack» := m })
      = stepSem isn data m := by
  unfold stepSem
  by_cases hl : data.length < 8
  · have hlI : ¬ (((data.length : Nat) : Int) ≥ 8) := by omega
    simp [LogicSack.getMinSackStep.run, interpStep, hl, hlI]
  · have hlI : ((data.length : Nat) : Int) ≥ 8 := by omega
    obtain ⟨l, hu⟩ := TRV.u32_of_lt (b := data) (off := 0) (by omega)
    have e : Logic.be (data.take 4) 4 = l := Proofs.BeNat.be32_of_u32 hu
    have hm := Proofs.TieCommon.sub_mod l isn (M := 4294967296) (by decide)
    by_cases hlt : (l + 4294967296 - isn % 4294967296) % 4294967296 < m
    · simp [LogicSack.getMinSackStep.run, interpStep, R.get, hl, hlI, hu, e, hm, hlt, Int.toNat_emod,
        Nat.min_eq_right (Nat.le_of_lt hlt)]
    · simp [LogicSack.getMinSackStep.run, interpStep, R.get, hl, hlI, hu, e, hm, hlt,
        Nat.min_eq_left (Nat.le_of_not_lt hlt)]

/-- the block loop: iterate `stepSem` (fuel = an upper bound of the number of iterations) -/
def innerLoop (isn : Nat) : Nat → Bytes → Bool × Nat → Bool × Nat
  | 0, _, st => st
  | fuel+1, data, st =>
    match stepSem isn data st.2 with
    | none => st
    | some (d, f, m) => innerLoop isn fuel d (f, m)

theorem innerLoop_eq (isn : Nat) : ∀ (fuel : Nat) (data : Bytes) (f : Bool) (m : Nat),
    innerLoop isn fuel data (f, m)
      = (f || !(sackEdges isn fuel data).isEmpty, (sackEdges isn fuel data).foldl Nat.min m) := by
  intro fuel
  induction fuel with
  | zero => intro data f m; simp [innerLoop, sackEdges]
  | succ n ih =>
    intro data f m
    unfold innerLoop sackEdges stepSem
    by_cases hl : data.length < 8
    · simp [hl]
    · cases hu : u32 data 0 with
      | none => simp [hl]
      | some l => simp [hl, ih]

/-- the option loop of `getMinSack`: `continue` unless the option is a SACK option (kind 5) -/
def outerLoop (isn : Nat) (opts : List (Nat × Bytes)) (st : Bool × Nat) : Bool × Nat :=
  opts.foldl (fun st o => if o.1 = 5 then innerLoop isn o.2.length o.2 st else st) st

theorem outerLoop_eq (isn : Nat) : ∀ (opts : List (Nat × Bytes)) (f : Bool) (m : Nat),
    outerLoop isn opts (f, m)
      = (f || !((opts.filter (·.1 = 5)).flatMap (fun o => sackEdges isn o.2.length o.2)).isEmpty,
         ((opts.filter (·.1 = 5)).flatMap (fun o => sackEdges isn o.2.length o.2)).foldl Nat.min m) := by
  intro opts
  induction opts with
  | nil => intro f m; simp [outerLoop]
  | cons o rest ih =>
    intro f m
    unfold outerLoop at ih ⊢
    by_cases h5 : o.1 = 5
    · simp only [List.foldl_cons, h5, if_true]
      rw [innerLoop_eq, ih]
      simp [h5, List.flatMap_cons, List.foldl_append, Bool.or_assoc]
      cases sackEdges isn o.2.length o.2 <;> simp
    · simp only [List.foldl_cons, h5, if_false]
      rw [ih]
      simp [h5]

/-- `getMinSack` as the Go code computes it — both loops, starting from `MaxUint32` and `false`,
    "no SACK options" when nothing was found — is the model's `minSack` -/
theorem getMinSack_loops_eq_minSack (isn : Nat) (opts : List (Nat × Bytes)) :
    (let st := outerLoop isn opts (false, 4294967295)
     if st.1 then some st.2 else none) = minSack isn opts := by
  rw [outerLoop_eq]
  unfold minSack
  generalize hE : (opts.filter (·.1 = 5)).flatMap (fun o => sackEdges isn o.2.length o.2) = edges
  cases edges with
  | nil => simp
  | cons e es =>
    -- every edge is a `uint32` value: the start value `MaxUint32` does not survive the first block
    have hmem : e ∈ Proofs.allEdges isn opts := by rw [Proofs.allEdges, hE]; exact List.mem_cons_self
    obtain ⟨_, _, _, _, _, _, he⟩ := (Proofs.allEdges_mem isn opts e).mp hmem
    have hmin : Nat.min 4294967295 e = e :=
      Nat.min_eq_right (Nat.le_of_lt_succ (he ▸ Nat.mod_lt _ (by decide)))
    simp [List.foldl_cons, hmin]

#print axioms tie_getMinSack_step
#print axioms innerLoop_eq
#print axioms outerLoop_eq
#print axioms getMinSack_loops_eq_minSack
#print axioms sackRecv_eq_handle
#print axioms kind_bad
#print axioms kind_nomatch
#print axioms kind_ns2
#print axioms interp_err
#print axioms interp_ok
#print axioms tie_sack_getRTT
#print axioms tie_sack_handle

end TRV.Props.TieSack
