import TRV.Proofs.Params
import TRV.Generated.ParamsFacts
/-!
# C19 — Parameters are honoured exactly or rejected, never wrapped; no crash

`run ttlRangeChecked sackTableInt p` is the parameter-path model; the two booleans describe the
code and are REGENERATED from the source (`TRV.Generated.ParamsFacts`, written by
`harness/extract/params.go` on every check).

* `c19_honoured_or_rejected_full tc si` / `c19_no_crash_full tc si` — the two statements for a given
  code description; both proved for the fixed code `(true, true)`.  With concrete witnesses the first
  is refuted for the three other descriptions, the second for the two with the 8-bit table
  (`si = false`); `c19_no_crash_full false true` is not stated (the crash needs the 8-bit table);
* `c19_honoured_or_rejected`, `c19_no_crash` — the headline theorems, stated for the REGENERATED
  description.  They are proved by first establishing `Generated.ttlRangeChecked = true` and
  `Generated.sackTableInt = true` by `rfl`: on a tree where a fact is `false` these do not compile,
  which is the intended red state (findings F1/F2), not a vacuous pass.
-/
namespace TRV.Props.C19
open TRV.Params TRV.Spec.Params TRV.Proofs.Params
open TRV.Policy (Method)

/-- every request is rejected, or its probes are exactly the requested ones -/
def c19_honoured_or_rejected_full (tc si : Bool) : Prop :=
  ∀ p : P, run tc si p = .reject ∨ ∃ pl, run tc si p = .plan pl ∧ Honoured p pl

/-- no request makes the process crash -/
def c19_no_crash_full (tc si : Bool) : Prop := ∀ p : P, run tc si p ≠ .crash

/-- For code that range-checks the TTL bounds and sizes the SACK table in `int`: every request is
    rejected or honoured exactly — all integers for both TTL bounds and the port, every protocol and
    method, every target literal shape, every SACK availability. -/
theorem c19_honoured_or_rejected_fixed : c19_honoured_or_rejected_full true true :=
  fun p => acceptable_iff.mp (run_acceptable p)

/-- … and no request crashes the process. -/
theorem c19_no_crash_fixed : c19_no_crash_full true true :=
  fun p h => by have := run_acceptable p; rw [h] at this; cases this

/-- witness F1a: UDP, TTL 1..300 -/
def witnessWrap : P :=
  { proto := .udp, method := .empty, minTTL := 1, maxTTL := 300, port := 0, litPort := .absent, v6 := false, avail := .capable }
/-- witness F1b: UDP, TTL −1..−1 -/
def witnessNeg : P :=
  { proto := .udp, method := .empty, minTTL := -1, maxTTL := -1, port := 0, litPort := .absent, v6 := false, avail := .capable }
/-- witness F2: SACK-capable target, method sack, TTL 1..255 -/
def witnessSack : P :=
  { proto := .tcp, method := .sack, minTTL := 1, maxTTL := 255, port := 443, litPort := .absent, v6 := false, avail := .capable }

/-- F1, concretely: without the range check MaxTTL = 300 is accepted and probes TTL 1..44, and
    MinTTL = MaxTTL = −1 is accepted and probes TTL 255 -/
theorem c19_unchecked_wraps (si : Bool) :
    run false si witnessWrap = .plan { proto := .udp, kind := .none, port := some 33434, v6 := false, ttls := List.range' 1 44 } ∧
    run false si witnessNeg = .plan { proto := .udp, kind := .none, port := some 33434, v6 := false, ttls := [255] } := by
  cases si <;> decide

/-- Without the TTL range check the honoured-or-rejected statement is FALSE (whatever the SACK table). -/
theorem c19_unchecked_refuted (si : Bool) : ¬ c19_honoured_or_rejected_full false si := by
  intro h
  rcases h witnessWrap with hrej | ⟨pl, hpl, hh⟩
  · rw [(c19_unchecked_wraps si).1] at hrej; cases hrej
  · rw [(c19_unchecked_wraps si).1] at hpl
    cases hpl
    have hf : honoured witnessWrap
        { proto := .udp, kind := .none, port := some 33434, v6 := false, ttls := List.range' 1 44 } = false := by decide
    simp [Honoured, hf] at hh

/-- F2, concretely: with the table sized in 8-bit arithmetic, SACK with MaxTTL = 255 crashes. -/
theorem c19_sack_table_crashes (tc : Bool) : run tc false witnessSack = .crash := by
  cases tc <;> decide

/-- With the 8-bit SACK table both statements are FALSE (whatever the range check). -/
theorem c19_sack8_refuted (tc : Bool) :
    ¬ c19_no_crash_full tc false ∧ ¬ c19_honoured_or_rejected_full tc false := by
  refine ⟨fun h => h witnessSack (c19_sack_table_crashes tc), fun h => ?_⟩
  rcases h witnessSack with hrej | ⟨pl, hpl, _⟩
  · rw [c19_sack_table_crashes tc] at hrej; cases hrej
  · rw [c19_sack_table_crashes tc] at hpl; cases hpl

/-- HEADLINE (about the code as it is now, through the regenerated facts): every request is rejected
    or honoured exactly. Does not compile while a regenerated fact is `false`. -/
theorem c19_honoured_or_rejected :
    ∀ p : P, run Generated.ttlRangeChecked Generated.sackTableInt p = .reject ∨
      ∃ pl, run Generated.ttlRangeChecked Generated.sackTableInt p = .plan pl ∧ Honoured p pl := by
  have h1 : Generated.ttlRangeChecked = true := rfl
  have h2 : Generated.sackTableInt = true := rfl
  rw [h1, h2]
  exact c19_honoured_or_rejected_fixed

/-- HEADLINE: no accepted value — including the extremes 1 and 255 — crashes the process. -/
theorem c19_no_crash :
    ∀ p : P, run Generated.ttlRangeChecked Generated.sackTableInt p ≠ .crash := by
  have h1 : Generated.ttlRangeChecked = true := rfl
  have h2 : Generated.sackTableInt = true := rfl
  rw [h1, h2]
  exact c19_no_crash_fixed

/-- non-vacuity: the extremes are honoured by the fixed code, and an honoured SACK run at MaxTTL 255 -/
example : run true true { witnessSack with minTTL := 254 } =
    .plan { proto := .tcp, kind := .sack, port := some 443, v6 := false, ttls := [254, 255] } := by decide
example : run true true witnessWrap = .reject ∧ run true true witnessNeg = .reject := by decide
example : honoured { witnessSack with minTTL := 254 }
    { proto := .tcp, kind := .sack, port := some 443, v6 := false, ttls := [254, 255] } = true := by decide

#print axioms c19_honoured_or_rejected_fixed
#print axioms c19_no_crash_fixed
#print axioms c19_unchecked_wraps
#print axioms c19_unchecked_refuted
#print axioms c19_sack_table_crashes
#print axioms c19_sack8_refuted
#print axioms c19_honoured_or_rejected
#print axioms c19_no_crash
end TRV.Props.C19
