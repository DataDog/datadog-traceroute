import TRV.Proofs.Enrich
import TRV.Proofs.PublicIP
/-!
# C18 — Enrichment is per-address correct, failure-tolerant, caches only successes

Model: `TRV.Model.Enrich` (`EnrichWithReverseDns`/`GetReverseDnsForIPs`,
`cache.GetWithExpiration` over go-cache, `GetPublicIP` over `backoff.Retry`).  Spec: `TRV.Spec.Enrich`.
-/
namespace TRV.Props.C18
open TRV TRV.Enrich TRV.Spec.Enr TRV.Proofs.Enr

section RDns
variable {ν β γ δ κ : Type}

/-- **Names are exact.**  With a resolver that answers as a function of the address, whatever the
    document (any mix of addresses, duplicates, unanswered hops with an empty address, failing
    addresses) and in **every** completion order of the concurrent lookups (`order` is any
    permutation of the address occurrences), every destination and hop ends up with exactly what
    the resolver returns for its own address, and with nothing if that lookup fails or the address
    is empty. -/
theorem c18_names_exact (str : Bytes → κ) (resolver : κ → Option ν) (d : Doc ν β γ δ)
    (order : List Bytes) (hp : order.Perm d.ips) :
    NamesExact (want str resolver) (enrichOrder str resolver order d) := by
  refine hopsSatisfy_assign.mpr fun ip hip => ?_
  rw [← lookupIP_eq_want]
  exact buildMap_consistent (consistent_of_fun _ order) (c := (ip, _))
    (List.mem_map.mpr ⟨ip, hp.mem_iff.mpr hip, rfl⟩)

/-- The statement one would like for a resolver that may answer differently *per call*: every
    occurrence (in collection order `cs`) ends up with the result of its **own** lookup, in every
    completion order `σ`.  This is **false** of the code (see `c18_names_exact_full_false`): the
    results are gathered in a map keyed by the raw address, so duplicates share the last write. -/
def c18_names_exact_full : Prop :=
  ∀ (ν β γ δ : Type) (d : Doc ν β γ δ) (cs σ : List (Completion ν)),
    cs.map Prod.fst = d.ips → σ.Perm cs → (enrichWith σ d).namesList = cs.map Prod.snd

/-- The per-occurrence statement holds whenever the lookups of one address all returned the same
    thing (`Consistent`) — in particular for every resolver that is a function of the address, and
    for every run in which the cache or the resolver answers duplicates alike. -/
theorem c18_names_exact_partial (d : Doc ν β γ δ) (cs σ : List (Completion ν))
    (hips : cs.map Prod.fst = d.ips) (hp : σ.Perm cs) (hc : Consistent cs) :
    (enrichWith σ d).namesList = cs.map Prod.snd := by
  unfold enrichWith
  rw [assign_namesList, ← hips, List.map_map]
  exact List.map_congr_left fun c hcm => buildMap_consistent (consistent_perm hp hc) (hp.mem_iff.mpr hcm)

/-- Witness against the unrestricted statement: one run whose destination and only hop have the
    same address; the resolver fails the first lookup and answers the second.  Both fields get the
    answer, although the first occurrence's own lookup failed. -/
theorem c18_names_exact_full_false : ¬ c18_names_exact_full := by
  intro h
  let ip : Bytes := [byte 10, byte 0, byte 0, byte 1]
  let d : Doc Nat Unit Unit Unit :=
    { runs := [{ destIp := ip, destNames := none, hops := [{ ip := ip, names := none, other := () }], other := () }],
      other := () }
  let cs : List (Completion Nat) := [(ip, none), (ip, some 7)]
  have := h Nat Unit Unit Unit d cs cs rfl (List.Perm.refl _)
  revert this
  decide

/-- What does hold for **any** resolver behaviour (per-call answers `cs`, any completion order `σ`):
    the names on a hop are an answer the resolver gave for that same raw address, and they are
    empty exactly when every lookup of that address failed.  Names of one address never reach a hop
    with another address. -/
theorem c18_names_from_same_address (d : Doc ν β γ δ) (cs σ : List (Completion ν)) (hp : σ.Perm cs) :
    HopsSatisfy (FromSameAddress cs) (enrichWith σ d) :=
  hopsSatisfy_assign.mpr fun ip _ => fromSame_of_perm hp (buildMap_fromSame σ ip)

/-- **Failure tolerance.**  Enrichment is a total function of the document (it cannot fail); for any
    lookup results and any completion order everything except the names fields is untouched (runs,
    hop count and order, addresses, all other fields); and with a resolver that is a function of
    the address a hop whose lookup fails (resolver error or empty address) has empty names, while
    every other hop still gets exactly its own answer (`c18_names_exact`). -/
theorem c18_failure_tolerant (str : Bytes → κ) (resolver : κ → Option ν) (d : Doc ν β γ δ)
    (order : List Bytes) (hp : order.Perm d.ips) :
    RestUntouched d (enrichOrder str resolver order d) ∧
    (∀ σ : List (Completion ν), RestUntouched d (enrichWith σ d)) ∧
    HopsSatisfy (fun ip n => (ip = [] ∨ resolver (str ip) = none) → n = none)
      (enrichOrder str resolver order d) := by
  refine ⟨eraseNames_assign _ d, fun σ => eraseNames_assign _ d,
    hopsSatisfy_mono (fun ip n hn hf => ?_) (c18_names_exact str resolver d order hp)⟩
  rw [hn, want]
  rcases hf with hf | hf <;> simp [hf]

/-- **Any interleaving, with the cache in the loop.**  `GetReverseDnsForIPs` as goroutines whose
    atomic steps (`cache.Get`; resolver call + `cache.Set` on success; map write under the mutex)
    interleave arbitrarily, with clock steps anywhere, starting from any cache whose entries are
    answers of the resolver (e.g. flushed, or filled by earlier runs): duplicates may each query
    the resolver or be answered by the cache, yet once every goroutine is done the document
    assigned from the map carries exactly the resolver's answer on every hop and destination. -/
theorem c18_fanout_any_interleaving [DecidableEq κ] (str : Bytes → κ) (resolver : κ → Option ν)
    (d : Doc ν β γ δ) (c0 : Store κ ν) (t0 : Nat) (s : FSt κ ν)
    (hc : Coherent c0 resolver) (hr : FReach str resolver d.ips c0 t0 s) (ht : s.terminal d.ips) :
    NamesExact (want str resolver) (assign s.m d) :=
  hopsSatisfy_assign.mpr (fanout_terminal hc hr ht)

end RDns

section Cache
variable {K V : Type} [DecidableEq K]

/-- **A hit does not query.**  Sequentially: if the cache holds an unexpired value for the key, then
    `GetWithExpiration` returns it, the callback is not invoked and the cache is unchanged.
    Under any interleaving: in a state where the key reads as `v`, a `get` by any caller cannot be a
    miss, returns `v`, starts no callback and changes nothing. -/
theorem c18_cache_hit_no_query (s : Store K V) (now : Nat) (k : K) (v : V) (h : s.get now k = some v) :
    (∀ (cb : Option V) (dur : Nat) (ttl : Int),
      (getWithExpiration s now k cb dur ttl).result = some v ∧
      (getWithExpiration s now k cb dur ttl).cbCalls = 0 ∧
      (getWithExpiration s now k cb dur ttl).store = s) ∧
    (∀ (ttl : K → Int) (st st' : CSt K V) (l : CLabel K V), st.store = s → st.now = now →
      CStep ttl st l st' →
      (∀ id t, l ≠ .miss id k t) ∧ (∀ id w t, l = .hit id k w t → w = v ∧ st' = st)) := by
  refine ⟨fun cb dur ttl => by rw [getWithExpiration_hit h]; exact ⟨rfl, rfl, rfl⟩, ?_⟩
  rintro ttl st st' l rfl rfl hstep
  -- with the label given, only one rule of `CStep` applies
  refine ⟨fun id t hl => ?_, fun id w t hl => ?_⟩
  · subst hl
    cases hstep with
    | getMiss _ _ hp hg => cases h.symm.trans hg
  · subst hl
    cases hstep with
    | getHit _ _ _ hp hg => exact ⟨Option.some.inj (hg.symm.trans h), rfl⟩

/-- **Failures are never cached.**  Sequentially: a miss whose callback fails returns the failure and
    leaves the cache as it was.  Under any interleaving of any number of callers starting from the
    flushed cache: a failing callback's step does not change the store, and every entry present in
    any reachable state is the value of a *successful* callback for that very key. -/
theorem c18_cache_never_stores_failure :
    (∀ (s : Store K V) (now : Nat) (k : K) (dur : Nat) (ttl : Int), s.get now k = none →
      (getWithExpiration s now k none dur ttl).result = none ∧
      (getWithExpiration s now k none dur ttl).store = s) ∧
    (∀ (ttl : K → Int) (st st' : CSt K V) (id : Nat) (k : K) (t : Nat),
      CStep ttl st (.failed id k t) st' → st'.store = st.store) ∧
    (∀ (ttl : K → Int) (t0 : Nat) (tr : List (CLabel K V)) (st : CSt K V), CReach ttl t0 tr st →
      ∀ k e, st.store k = some e → ∃ id t, CLabel.stored id k e.val t ∈ tr) := by
  refine ⟨fun s now k dur ttl h => by rw [getWithExpiration_miss h]; exact ⟨rfl, rfl⟩, ?_, ?_⟩
  · intro ttl st st' id k t hs
    cases hs; rfl
  · intro ttl t0 tr st hr k e he
    obtain ⟨id, t, hm, _, _⟩ := cinv_reach hr k e he
    exact ⟨id, t, hm⟩

/-- **Expiry**, over all interleavings (any number of callers, any clock steps), each key being used
    with its expiry `ttl k`:
    (a) every hit returns a value that a successful callback for that key stored at some time `t₀`,
        and the hit happens while that success is still valid (`now ≤ t₀ + ttl`, or no expiry);
    (b) once a key holds an entry, in every later state up to that entry's expiry the key still
        reads as a stored success (so by `c18_cache_hit_no_query` every call in between is a hit
        and nothing is re-queried) — concurrent callers can only replace it by a success that
        lives at least as long;
    (c) an entry whose expiry has passed is not served. -/
theorem c18_cache_expiry (ttl : K → Int) (t0 : Nat) (tr : List (CLabel K V)) (st : CSt K V)
    (hr : CReach ttl t0 tr st) :
    (∀ st' id k v t, CStep ttl st (.hit id k v t) st' →
      ∃ id' ts, CLabel.stored id' k v ts ∈ tr ∧ ts ≤ t ∧ stillValid t ts (ttl k) = true) ∧
    (∀ k e st', st.store k = some e → CSteps ttl st st' → (e.exp = 0 ∨ st'.now ≤ e.exp) →
      ∃ w, st'.store.get st'.now k = some w) ∧
    (∀ k e, st.store k = some e → e.exp ≠ 0 → e.exp < st.now → st.store.get st.now k = none) := by
  refine ⟨?_, ?_, ?_⟩
  · intro st' id k v t hs
    cases hs with
    | getHit _ _ _ hp hg =>
      obtain ⟨e, he, hf, rfl⟩ := get_eq_some_iff.mp hg
      obtain ⟨id', ts, hm, hx, hts⟩ := cinv_reach hr k e he
      exact ⟨id', ts, hm, hts, fresh_iff_stillValid hx st.now ▸ hf⟩
  · intro k e st' he hs hv
    obtain ⟨e', he', hle⟩ := persist hr he hs
    have hf : e.fresh st'.now = true := by simpa [Entry.fresh] using hv
    exact ⟨e'.val, get_eq_some_iff.mpr ⟨e', he', hle _ hf, rfl⟩⟩
  · intro k e he hne hlt
    have : e.fresh st.now = false := by simp [Entry.fresh, hne, Nat.not_le.mpr hlt]
    simp [Store.get, he, this]

/-- **The sequential model meets the trace spec.**  Whatever sequence of calls (any keys, callback
    outcomes and durations, expiries including "default" and "never"), sleeps and flushes a single
    client performs from the flushed cache, what it observes satisfies the reference predicate
    `traceOK` — the same predicate the harness evaluates on the real cache's observations. -/
theorem c18_cache_sequential_spec [DecidableEq V] (ops : List (SeqOp K V)) (t0 : Nat) :
    traceOK (observe ops Store.flush t0) = true :=
  observe_traceOK ops t0 []

end Cache

/-- **Provider order.**  For every list of providers, every per-provider script of attempt outcomes
    (transport error, body read error, any status with any body), every back-off interval sequence
    and every per-provider budget (2 s, or less under a caller deadline):
    the call returns `(i, ip)` iff provider `i` is the first, in list order, that yields a valid
    address within its budget (`FirstValid`), it returns nothing iff no provider does, and the
    executable reference `firstValid` computes the same answer. -/
theorem c18_provider_order (ps : List Provider) (hb : ∀ p ∈ ps, p.budget ≤ maxElapsedTime) :
    (∀ i ip, (Enrich.get ps).result = some (i, ip) ↔ FirstValid ps i ip) ∧
    ((Enrich.get ps).result = none ↔ ∀ p ∈ ps, ¬ Succeeds p) ∧
    (Enrich.get ps).result = firstValid ps := by
  have hg : (Enrich.get ps).result = firstValid ps := by
    rw [Enrich.get, getFrom_result 0 ps hb]
    simp only [Nat.zero_add, Option.map_id']
  exact ⟨fun i ip => hg ▸ firstValid_iff ps i ip, hg ▸ firstValid_eq_none_iff ps, hg⟩

/-- The same without any side condition, for the budgets the code actually uses: 2 s per provider,
    cut short by the caller's deadline `parent` (none = no deadline), providers run one after the
    other. -/
theorem c18_provider_order_ctx (parent : Option Nat) (scripts : List (List Attempt × List Nat)) :
    (Enrich.get (withBudgets parent 0 scripts)).result = firstValid (withBudgets parent 0 scripts) ∧
    ∀ i ip, (Enrich.get (withBudgets parent 0 scripts)).result = some (i, ip) ↔
      FirstValid (withBudgets parent 0 scripts) i ip := by
  have hb : ∀ p ∈ withBudgets parent 0 scripts, p.budget ≤ maxElapsedTime := fun p hp =>
    Nat.le_trans (withBudgets_budget_le parent 0 scripts p hp) callTimeout_le_maxElapsed
  exact ⟨(c18_provider_order _ hb).2.2, (c18_provider_order _ hb).1⟩

/-- **Providers after the winner are never queried**: the contacted providers are exactly the list
    prefix up to and including the winner (everybody if there is no winner), and each contacted
    provider's record is that provider's own retry run. -/
theorem c18_provider_later_never_queried (ps : List Provider) :
    (Enrich.get ps).trace = (ps.take (Enrich.get ps).trace.length).map Provider.run ∧
    (∀ i ip, (Enrich.get ps).result = some (i, ip) → (Enrich.get ps).trace.length = i + 1) ∧
    ((Enrich.get ps).result = none → (Enrich.get ps).trace.length = ps.length) :=
  ⟨getFrom_trace 0 ps, fun _ _ h => (Nat.zero_add _).symm.trans (getFrom_trace_length_some 0 ps h),
    getFrom_trace_length_none 0 ps⟩

/-- **Client errors and invalid bodies are final for that provider**: if the `k`-th attempt is
    reached (all earlier ones retryable, waits within the budget) and meets a 4xx status or a body
    that is not an address, the provider is given up after exactly `k+1` attempts; in particular a
    first response of that kind means exactly one attempt.  Likewise a valid address at attempt `k`
    ends the provider after exactly `k+1` attempts. -/
theorem c18_provider_final_one_attempt (p : Provider) (hb : p.budget ≤ maxElapsedTime) :
    (∀ a rest, p.script = a :: rest → final a = true → p.run.attempts = 1 ∧ p.run.out = .permanent) ∧
    (∀ k a, ReachesFrom 0 p.budget p.script p.ivals k → p.script[k]? = some a → final a = true →
      p.run.attempts = k + 1 ∧ p.run.out = .permanent) ∧
    (∀ k ip, SucceedsAt p k ip → p.run.attempts = k + 1 ∧ p.run.out = .ok ip) := by
  have h2 : ∀ k a, ReachesFrom 0 p.budget p.script p.ivals k → p.script[k]? = some a → final a = true →
      p.run.attempts = k + 1 ∧ p.run.out = .permanent := by
    intro k a hr ha hf
    unfold Provider.run
    rw [retry_final hb hr ha hf]; simp
  refine ⟨?_, h2, ?_⟩
  · intro a rest hs hf
    exact h2 0 a reachesFrom_zero (by simp [hs]) hf
  · intro k ip hs
    exact ⟨run_attempts_of_succeedsAt hb hs, (run_ok_iff hb ip).mpr ⟨k, hs⟩⟩

/-- **Within its budget** (also the public-IP part of C08): if no single attempt lasts longer than
    `op`, a provider's retry loop returns within its budget plus `op`, and the whole discovery
    within `providers · (B + op)` when every budget is at most `B`. -/
theorem c18_provider_within_budget (ps : List Provider) (B op : Nat)
    (h : ∀ p ∈ ps, p.budget ≤ B ∧ ∀ a ∈ p.script, a.dur ≤ op) :
    (∀ p ∈ ps, p.run.elapsed ≤ p.budget + op) ∧ (Enrich.get ps).elapsed ≤ ps.length * (B + op) :=
  ⟨fun p hp => run_elapsed_le p (h p hp).2, getFrom_elapsed_le_of 0 ps fun p hp =>
    Nat.le_trans (run_elapsed_le p (h p hp).2) (Nat.add_le_add_right (h p hp).1 _)⟩

/-! non-vacuity: a reversed completion order and a reachable interleaving of the fan-out with the cache
    in the loop, the cache across an expiry, two concurrent callers, and a provider list that meets a
    final status, an unusable body, transient failures and a success -/

section Examples

private def ipA : Bytes := [byte 10, byte 0, byte 0, byte 1]
private def ipB : Bytes := [byte 192, byte 0, byte 2, byte 7]
private def ipC : Bytes := [byte 172, byte 16, byte 0, byte 9]

/-- a document with a duplicate address, an unanswered hop and a failing address -/
private def exDoc : Doc Nat Nat Nat Nat :=
  { runs := [{ destIp := ipB, destNames := some 99,
               hops := [⟨ipA, none, 1⟩, ⟨[], some 5, 2⟩, ⟨ipC, none, 3⟩, ⟨ipA, none, 4⟩], other := 7 }],
    other := 8 }

private def exResolver (k : Bytes) : Option Nat :=
  if k = ipA then some 11 else if k = ipB then some 22 else none

/-- reversed completion order: same result as the collection order, names per address, the failing
    and the empty address stay empty, the stale names are replaced -/
example : (enrichOrder id exResolver exDoc.ips.reverse exDoc).namesList =
    [some 22, some 11, none, none, some 11] := by decide

example : exDoc.ips.reverse.Perm exDoc.ips := List.reverse_perm _

/-- the fan-out with the cache in the loop: two occurrences of one address; the first misses and
    asks the resolver, the second is answered by the cache (one query only); both write -/
example : ∃ s, FReach id exResolver [ipA, ipA] (Store.flush : Store Bytes Nat) 0 s ∧
    s.terminal [ipA, ipA] ∧ s.queries.length = 1 ∧ s.m ipA = some 11 := by
  refine ⟨_, FReach.step (FReach.step (FReach.step (FReach.step (FReach.step FReach.init
    (FStep.miss _ 0 ipA rfl rfl (by decide) (by decide)))
    (FStep.resolveOk _ 0 ipA 11 rfl rfl (by decide)))
    (FStep.hit _ 1 ipA 11 rfl rfl (by decide) (by decide)))
    (FStep.write _ 0 ipA 11 rfl rfl))
    (FStep.write _ 1 ipA 11 rfl rfl), ?_, rfl, by decide⟩
  intro i hi
  match i, hi with
  | 0, _ => rfl
  | 1, _ => rfl

/-- cache: a miss at 5 whose callback succeeds at 7 (ttl 100) is served at 107 and gone at 108;
    a failing callback leaves nothing -/
private def r1 : GweRes Nat Nat := getWithExpiration Store.flush 5 1 (some 42) 2 100
private def r2 : GweRes Nat Nat := getWithExpiration r1.store 107 1 (some 43) 2 100
private def r3 : GweRes Nat Nat := getWithExpiration r2.store 108 1 none 2 100
private def r4 : GweRes Nat Nat := getWithExpiration r3.store 120 1 (some 44) 0 100
example :
    (r1.result = some 42 ∧ r1.cbCalls = 1) ∧ (r2.result = some 42 ∧ r2.cbCalls = 0) ∧
    (r3.result = none ∧ r3.cbCalls = 1) ∧ (r4.result = some 44 ∧ r4.cbCalls = 1) := by decide

/-- two concurrent callers both miss, both store; the trace is reachable -/
example : ∃ tr st, CReach (fun _ : Nat => (100 : Int)) 0 tr st ∧ st.store.get st.now 1 = some (8 : Nat) :=
  ⟨_, _, CReach.step (CReach.step (CReach.step (CReach.step CReach.init
      (CStep.getMiss _ 0 1 rfl rfl)) (CStep.getMiss _ 1 1 rfl rfl)) (CStep.cbOk _ 0 1 7 rfl))
      (CStep.cbOk _ 1 1 8 rfl), by decide⟩

private def b (l : List Nat) : Bytes := l.map byte
/-- "1.2.3.4\n" -/
private def bodyV4 : Bytes := b [0x31, 0x2e, 0x32, 0x2e, 0x33, 0x2e, 0x34, 0x0a]
/-- "<html>" -/
private def bodyJunk : Bytes := b [0x3c, 0x68, 0x74, 0x6d, 0x6c, 0x3e]

/-- provider 0 answers 404 (one attempt), provider 1 answers garbage (one attempt), provider 2 fails
    twice (503 with garbage is final! so a transport error and a read error are used) then a 500
    carrying an address: success at its third attempt; provider 3 is never contacted -/
private def exProviders : List Provider :=
  [ ⟨[.resp 404 bodyV4 1000, .resp 200 bodyV4 1000], [500, 750], callTimeout⟩,
    ⟨[.resp 200 bodyJunk 1000, .resp 200 bodyV4 1000], [500, 750], callTimeout⟩,
    ⟨[.transport 1000, .bodyErr 200 1000, .resp 500 bodyV4 1000], [500000000, 750000000], callTimeout⟩,
    ⟨[.resp 200 bodyV4 1000], [], callTimeout⟩ ]

example : (Enrich.get exProviders).result = some (2, b [0,0,0,0,0,0,0,0,0,0,255,255,1,2,3,4]) ∧
    (Enrich.get exProviders).trace.map (·.attempts) = [1, 1, 3] ∧
    firstValid exProviders = (Enrich.get exProviders).result := by decide

/-- a provider that only ever fails transiently is abandoned when its 2 s are over -/
example : (Provider.run ⟨[.transport 1000, .transport 1000, .transport 1000, .transport 1000],
    [500000000, 750000000, 1125000000, 1687500000], callTimeout⟩).out = .ctxDone := by decide

end Examples

#print axioms c18_names_exact
#print axioms c18_names_exact_partial
#print axioms c18_names_exact_full_false
#print axioms c18_names_from_same_address
#print axioms c18_failure_tolerant
#print axioms c18_fanout_any_interleaving
#print axioms c18_cache_hit_no_query
#print axioms c18_cache_never_stores_failure
#print axioms c18_cache_expiry
#print axioms c18_cache_sequential_spec
#print axioms c18_provider_order
#print axioms c18_provider_order_ctx
#print axioms c18_provider_later_never_queried
#print axioms c18_provider_final_one_attempt
#print axioms c18_provider_within_budget
end TRV.Props.C18
