import TRV.Model.Policy
import TRV.Model.Params
import TRV.Generated.LogicRunner
/-!
# Tie theorems: the TCP method policy model equals the trees REGENERATED from `traceroute/runner.go`

`tie_fallback`: what `performTCPFallback` returns — which closure's result, or which wrapped error —
is the first component of the model's `Policy.fallback`, for every method string class and every
outcome of the SACK closure (success, failure with / without a `NotSupportedError` anywhere in the
chain).  The invocation COUNTS of the closures (second component of the model) are not visible in the
tree's leaves and stay with the correspondence stream of C20.
`tie_e2e_override`: `runE2eProbeOnce` rewrites the method to SYN exactly when the model's `e2eMethod`
does, and always pins the first TTL to the last.
`tie_ttl_guard`: the guard at the top of `runTracerouteOnce` (generated `ttlGuard`) passes exactly the
`int` bounds that `Params.ttlInRange` passes.
-/
namespace TRV.Props.TiePolicy
open TRV TRV.Logic TRV.Generated TRV.Policy

def sackIsNS : Policy.Out → Bool
  | .err c => hasNS c
  | .ok _ => false

def sackOk : Policy.Out → Bool
  | .ok _ => true
  | .err _ => false

def atoms (m : Method) (sack : Policy.Out) : LogicRunner.performTCPFallback.Atoms :=
  { «tcpMethod == ""» := decide (m = .empty)
    «errors.As(doSack().1, &zero(*github.com/DataDog/datadog-traceroute/sack.NotSupportedError))» := sackIsNS sack
    «doSack().1 == nil» := sackOk sack
    «tcpMethod == TCPConfigSYN» := decide (m = .syn)
    «tcpMethod == TCPConfigSACK» := decide (m = .sack)
    «tcpMethod == TCPConfigSYNSocket» := decide (m = .synSocket)
    «tcpMethod == TCPConfigPreferSACK» := decide (m = .preferSack) }

/-- the value `performTCPFallback` returns, in the model's terms -/
def interp (syn sack sock : Policy.Out) (r : R) : Policy.Out :=
  match r.get "0", r.get "1" with
  | some (V.ref a), some (V.ref b) =>
    if a = "doSyn().0" ∧ b = "doSyn().1" then syn
    else if a = "doSack().0" ∧ b = "doSack().1" then sack
    else if a = "doSynSocket().0" ∧ b = "doSynSocket().1" then sock
    else .err []
  | some (V.ref a), some V.nil => if a = "doSack().0" then sack else .err []
  | some V.nil, some (V.err k) =>
    if k = "fmt.Errorf %w doSack().1" then
      match sack with
      | .err c => .err (.msg tagFatal :: c)
      | .ok _ => .err []
    else if k = "fmt.Errorf" then .err [.msg tagUnexpected]
    else .err []
  | _, _ => .err []

theorem tie_fallback (m : Method) (syn sack sock : Policy.Out) :
    interp syn sack sock (LogicRunner.performTCPFallback.run (atoms m sack)) = (fallback m syn sack sock).1 := by
  cases m with
  | preferSack =>
    -- the only method that looks at how the SACK closure ended
    cases sack with
    | ok r => simp [LogicRunner.performTCPFallback.run, atoms, interp, fallback, sackIsNS, sackOk, R.get]
    | err c =>
      cases h : hasNS c <;>
        simp [LogicRunner.performTCPFallback.run, atoms, interp, fallback, sackIsNS, sackOk, R.get, h]
  | _ => simp [LogicRunner.performTCPFallback.run, atoms, interp, fallback, R.get]

/-- The tree never reads the atom `params.MaxTTL` (it occurs in the assignment's text only): 30 fills
    the field, any value gives the same run. -/
theorem tie_e2e_override (isTcp : Bool) (m : Method) (okRun noDest : Bool) :
    let r := LogicRunner.runE2eProbeOnce.run
      { «params.MaxTTL» := 30
        «params.Protocol == "tcp"» := isTcp
        «params.TCPMethod == TCPConfigSACK» := decide (m = .sack)
        «params.TCPMethod == TCPConfigPreferSACK» := decide (m = .preferSack)
        «runTracerouteOnceFn(ctx, params, destinationPort).1 == nil» := okRun
        «runTracerouteOnceFn(ctx, params, destinationPort).0.GetDestinationHop() == nil» := noDest }
    r.effects.contains "params.MinTTL = params.MaxTTL" = true ∧
    r.effects.contains "params.TCPMethod = TCPConfigSYN" = decide (e2eMethod isTcp m ≠ m) := by
  intro r
  -- how the run ended decides what is returned, not what is assigned before it
  have he : r.effects = if isTcp && (decide (m = .sack) || decide (m = .preferSack))
      then ["params.MinTTL = params.MaxTTL", "params.TCPMethod = TCPConfigSYN"]
      else ["params.MinTTL = params.MaxTTL"] := by
    cases okRun <;> cases noDest <;> simp [r, LogicRunner.runE2eProbeOnce.run, apply_ite R.effects]
  rw [he]
  cases isTcp <;> cases m <;> simp [e2eMethod]

/-- the TTL guard at the top of `runTracerouteOnce` rejects exactly the requests the parameter model's
    range check rejects (`Params.ttlInRange` on both bounds, on the un-narrowed `int` values) -/
theorem tie_ttl_guard (min max : Int) :
    (LogicRunner.ttlGuard.run { «params.MinTTL» := min, «params.MaxTTL» := max }).rets.isEmpty
      = (Params.ttlInRange min && Params.ttlInRange max) := by
  unfold LogicRunner.ttlGuard.run Params.ttlInRange
  simp only [apply_ite R.rets]
  rw [Bool.eq_iff_iff]
  simp <;> omega

#print axioms tie_ttl_guard
#print axioms tie_fallback
#print axioms tie_e2e_override

end TRV.Props.TiePolicy
