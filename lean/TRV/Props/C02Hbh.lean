import TRV.Proofs.Complete6
/-!
# C02, byte level, IPv6 replies behind a hop-by-hop extension header

The IPv6 counterpart of "outer IP options": the three IPv6 reply families of `Props/C02.lean` again
with ANY hop-by-hop header between the IPv6 header and the ICMPv6 message — any length
(`hlen*8 + 8` bytes), any option bytes gopacket's TLV loop accepts (`hbhTLVs … = some opts`, the
model of `IPv6HopByHop.DecodeFromBytes`), no jumbo option.  `c02_hbh_hyp_padn` shows the hypothesis
holds for the PadN header of the catalogue's `outer-hbh` forms, whatever follows it.
(The ICMP capture filter does not let such frames through — finding F12 of C12; these theorems are
about the matchers, which see them on platforms and sockets without that filter.)
-/
namespace TRV.Props.C02Hbh
open TRV TRV.Wire TRV.Build TRV.Drv TRV.Proofs

theorem c02_icmp6_echo_bytes_hbh {s : IcmpSt} {t : Nat} {p : Sent}
    {ob1 ob2 ob3 ohop hlen code ick : Nat} {tlvs body : Bytes} {opts : List (Nat × Bytes)}
    (hl : s.cfg.localA.length = 16) (htg : s.cfg.target.length = 16)
    (b3 : ohop < 256) (b4 : code < 256) (hh : hlen < 256) (htl : tlvs.length = hlen * 8 + 6)
    (htlv : hbhTLVs (hlen * 8 + 8) ([byte 58, byte hlen] ++ tlvs ++
      (([byte 129, byte code] ++ be16 ick ++ (be16 s.cfg.echoId ++ be16 t)) ++ body)) 2 (hlen * 8 + 8) = some opts)
    (hj : hbhJumbo opts = some none)
    (b13 : s.cfg.echoId < 65536) (b14 : t < 65536)
    (hsize : 40 + (hlen * 8 + 8 + (8 + body.length)) ≤ 1024) (hlk : icmpLookup s t = some p) :
    icmpRecv s (icmpMsg6h ob1 ob2 ob3 ohop s.cfg.target s.cfg.localA hlen tlvs 129 code ick (be16 s.cfg.echoId ++ be16 t) body) =
      .accept t s.cfg.target true p.time :=
  icmp6_echo_of_parse b13 b14 (parse_icmpMsg6h htg hl rfl b3 (by omega) b4 hh htl htlv hj hsize) hlk

theorem c02_icmp6_te_bytes_hbh {s : IcmpSt} {t : Nat} {p : Sent}
    {ob1 ob2 ob3 ohop hlen code ick qb1 qb2 qb3 qplen qhop ety ecode eck : Nat} {r rest4 tlvs extra : Bytes} {opts : List (Nat × Bytes)}
    (hl : s.cfg.localA.length = 16) (htg : s.cfg.target.length = 16) (hr : r.length = 16) (hrest : rest4.length = 4)
    (b3 : ohop < 256) (b4 : code < 256) (hh : hlen < 256) (htl : tlvs.length = hlen * 8 + 6)
    (b6 : 8 ≤ qplen) (b7 : qplen < 65536) (b10 : qhop < 256)
    (b11 : ety = 128 ∨ ety = 129) (b12 : ecode < 256) (b13 : s.cfg.echoId < 65536) (b14 : t < 65536)
    (htlv : hbhTLVs (hlen * 8 + 8) ([byte 58, byte hlen] ++ tlvs ++
      (([byte 3, byte code] ++ be16 ick ++ rest4) ++ (rawHdr6 qb1 qb2 qb3 qplen 58 qhop s.cfg.localA s.cfg.target ++
          (([byte ety, byte ecode] ++ be16 eck ++ be16 s.cfg.echoId ++ be16 t) ++ extra)))) 2 (hlen * 8 + 8) = some opts)
    (hj : hbhJumbo opts = some none)
    (hsize : 40 + (hlen * 8 + 8 + (8 + (48 + extra.length))) ≤ 1024) (hlk : icmpLookup s t = some p) :
    icmpRecv s (icmpMsg6h ob1 ob2 ob3 ohop r s.cfg.localA hlen tlvs 3 code ick rest4
        (rawHdr6 qb1 qb2 qb3 qplen 58 qhop s.cfg.localA s.cfg.target ++
          (([byte ety, byte ecode] ++ be16 eck ++ be16 s.cfg.echoId ++ be16 t) ++ extra))) =
      .accept t r false p.time :=
  icmp6_te_of_parse hl htg hrest b6 b7 b10 b11 b12 b13 b14
    (parse_icmpMsg6h hr hl hrest b3 (by omega) b4 hh htl htlv hj (by rw [quoted6_length hl htg rfl]; exact hsize)) hlk

theorem c02_udp6_err_bytes_hbh {s : UdpSt} {p : Sent}
    {ob1 ob2 ob3 ohop hlen ty code ick qb1 qb2 qb3 qhop : Nat} {r rest4 w tlvs extra : Bytes} {opts : List (Nat × Bytes)}
    (hl : s.cfg.localA.length = 16) (htg : s.cfg.target.length = 16) (hr : r.length = 16) (hrest : rest4.length = 4)
    (hw : w.length = 4)
    (b3 : ohop < 256) (b4 : code < 256) (hty : (ty = 3 ∧ code = 0) ∨ ty = 1) (hh : hlen < 256) (htl : tlvs.length = hlen * 8 + 6)
    (b6 : 8 ≤ p.id) (b7 : p.id < 65536) (b10 : qhop < 256)
    (b11 : s.cfg.lport < 65536) (b12 : s.cfg.tport < 65536)
    (htlv : hbhTLVs (hlen * 8 + 8) ([byte 58, byte hlen] ++ tlvs ++
      (([byte ty, byte code] ++ be16 ick ++ rest4) ++ (rawHdr6 qb1 qb2 qb3 p.id 17 qhop s.cfg.localA s.cfg.target ++
          ((be16 s.cfg.lport ++ be16 s.cfg.tport ++ w) ++ extra)))) 2 (hlen * 8 + 8) = some opts)
    (hj : hbhJumbo opts = some none)
    (hsize : 40 + (hlen * 8 + 8 + (8 + (48 + extra.length))) ≤ 1024) (hf : s.sent.find? (·.id = p.id) = some p) :
    udpRecv s (icmpMsg6h ob1 ob2 ob3 ohop r s.cfg.localA hlen tlvs ty code ick rest4
        (rawHdr6 qb1 qb2 qb3 p.id 17 qhop s.cfg.localA s.cfg.target ++
          ((be16 s.cfg.lport ++ be16 s.cfg.tport ++ w) ++ extra))) =
      .accept p.ttl r (decide (r = s.cfg.target)) p.time :=
  udp6_err_of_parse hl htg hrest hw hty b6 b7 b10 b11 b12
    (parse_icmpMsg6h hr hl hrest b3 (by rcases hty with ⟨h, _⟩ | h <;> omega) b4 hh htl htlv hj
      (by rw [quoted6_length hl htg (by simp [be16, hw])]; exact hsize)) hf

/-- the TLV hypothesis holds for the 8-byte PadN header, whatever follows it -/
theorem c02_hbh_hyp_padn (l4 : Bytes) :
    hbhTLVs 8 ([byte 58, byte 0] ++ [1, 4, 0, 0, 0, 0] ++ l4) 2 8 = some [(1, [0, 0, 0, 0])] ∧
    hbhJumbo [(1, [0, 0, 0, 0])] = some none :=
  ⟨by simp [hbhTLVs, slice], rfl⟩

/-- non-vacuity (kernel evaluation): an echo reply behind a 16-byte hop-by-hop header (router alert,
    then PadN) is accepted -/
example :
    let cfg : IcmpCfg := { localA := List.replicate 15 0 ++ [1], target := List.replicate 15 0 ++ [9], echoId := 0x1234, min := 1, max := 30 }
    let st : IcmpSt := { cfg, sent := [{ ttl := 3, id := 0x1234, seq := 3, time := 100 }] }
    icmpRecv st (icmpMsg6h 0 0 0 60 cfg.target cfg.localA 1 [5, 2, 0, 0, 1, 6, 0, 0, 0, 0, 0, 0, 1, 0] 129 0 0 (be16 0x1234 ++ be16 3) [0xaa, 0xbb]) =
      .accept 3 cfg.target true 100 := by decide +kernel

#print axioms c02_icmp6_echo_bytes_hbh
#print axioms c02_icmp6_te_bytes_hbh
#print axioms c02_udp6_err_bytes_hbh
#print axioms c02_hbh_hyp_padn
end TRV.Props.C02Hbh
