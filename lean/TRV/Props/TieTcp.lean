import TRV.Model.Drivers
import TRV.Generated.LogicTcp
import TRV.Generated.LogicCommon
import TRV.Proofs.TieCommon
/-!
# Tie theorems: the TCP SYN matcher model equals the decision tree REGENERATED from `tcp/tcp_driver.go`

Same method as `TRV/Props/TieIcmp.lean` / `TieUdp.lean`.  `tie_tcp_handle`: for every driver state and
every parsed packet the model's `tcpRecv` (after `ReadAndParse`) is the regenerated tree of
`tcpDriver.handleProbeLayers` — flag test, expected address pair, ports, `Ack - 1` in `uint32`
against the LAST sent probe's sequence number, and the ICMP time-exceeded arm with the quoted
protocol, ports, strict/relaxed source check and the (IP id, sequence number) lookup.
`tie_tcp_ids`: `getNextPacketIDAndSeqNum` is the model's `tcpIds` (`basePacketID + ttl` in `uint16`).

Assumption about code outside the tree: a stored `probeData` is never the zero value.
-/
namespace TRV.Props.TieTcp
open TRV TRV.Wire TRV.Drv TRV.Logic TRV.Generated

def kindOf (k : String) : String :=
  match (LogicTcp.sentinels ++ LogicCommon.sentinels.map (fun p => ("common." ++ p.1, "common." ++ p.2))).find? (·.1 = k) with
  | some p => p.2
  | none => k

def retryableKind (k : String) : Bool := k = "common.BadPacketError" || k = "common.ReceiveProbeNoPktError"

def interp (probe : Option Sent) (src : Bytes) (r : R) : Out :=
  match r.get "1" with
  | some V.nil =>
    match r.get "0.TTL", r.get "0.IsDest", r.get "0.IP", probe with
    | some (V.int t), some (V.bool d), some (V.ref ip), some p =>
      if ip = "t.parser.GetIPPair().0.SrcAddr" then .accept t.toNat src d p.time else .fatal
    | _, _, _, _ => .fatal
  | some (V.err k) => if retryableKind (kindOf k) then .retry else .fatal
  | _ => .fatal

/-- the part of `tcpRecv` after a successful `ReadAndParse` -/
def handle (s : TcpSt) (l3 : L3) (l4 : L4) : Out :=
  match l4 with
  | .tcp t =>
    let isSynack := t.syn && t.ackf
    let isRst := t.rst
    let isRstAck := t.rst && t.ackf
    if !isSynack && !isRst && !isRstAck then .retry
    else if ¬ (l3.src = s.cfg.target ∧ l3.dst = s.cfg.localA) then .retry
    else if s.cfg.tport ≠ t.sport then .retry
    else if s.cfg.lport ≠ t.dport then .retry
    else
      match s.sent.getLast? with
      | none => .fatal
      | some last =>
        let expectedSeq := (t.ack + 4294967295) % 4294967296
        if (isSynack || isRstAck) && last.seq ≠ expectedSeq then .retry
        else .accept last.ttl l3.src true last.time
  | .icmp4 i =>
    if ¬ (i.type = 11 ∧ i.code = 0) then .retry
    else match icmpInfo4 i with
      | none => .retry
      | some info =>
        if info.proto ≠ 6 then .retry else
        match quotedPorts info.payload, quotedSeq info.payload with
        | some (sp, dp), some sq =>
          if ¬ (info.qdst = s.cfg.target ∧ dp = s.cfg.tport) then .retry
          else if !s.cfg.loosen ∧ ¬ (info.qsrc = s.cfg.localA ∧ sp = s.cfg.lport) then .retry
          else match s.sent.find? (fun p => p.id = info.wrappedId ∧ p.seq = sq) with
            | none => .retry
            | some p => .accept p.ttl l3.src false p.time
        | _, _ => .retry
  | .icmp6 _ => .retry

theorem tcpRecv_eq_handle (s : TcpSt) (pkt : Bytes) :
    tcpRecv s pkt = if pkt.isEmpty then .fatal else
      match parse (pkt.take bufSize) with
      | none => .retry
      | some (l3, l4) => handle s l3 l4 := by
  unfold tcpRecv
  rcases parse (pkt.take bufSize) with _ | ⟨l3, _ | _ | _⟩ <;> rfl

def dInfo : ICMPInfo := ⟨0, 0, [], [], []⟩
def dSent : Sent := ⟨0, 0, 0, 0⟩
def dTcp : TCP := ⟨0, 0, 0, 0, 0, [], []⟩

def tOf : L4 → TCP
  | .tcp t => t
  | _ => dTcp

def infoOf : L4 → Option ICMPInfo
  | .icmp4 i => icmpInfo4 i
  | _ => none

def isTE : L4 → Bool
  | .icmp4 i => decide (i.type = 11 ∧ i.code = 0)
  | _ => false

/-- the record the lookup atoms of the ICMP arm stand for -/
def foundQ (s : TcpSt) (l4 : L4) : Option Sent :=
  let info := (infoOf l4).getD dInfo
  s.sent.find? (fun p => p.id = info.wrappedId ∧ p.seq = (quotedSeq info.payload).getD 0)

/-- the record an accepted outcome is credited to: the last sent probe for a TCP segment, the looked-up
    one for an ICMP error -/
def credited (s : TcpSt) (l4 : L4) : Option Sent :=
  match l4 with
  | .tcp _ => s.sent.getLast?
  | _ => foundQ s l4

def atoms (s : TcpSt) (l3 : L3) (l4 : L4) : LogicTcp.handleProbeLayers.Atoms :=
  let t := tOf l4
  let info := (infoOf l4).getD dInfo
  let ports := (quotedPorts info.payload).getD (0, 0)
  let last := (s.sent.getLast?).getD dSent
  { «t.parser.GetIPPair().1 == nil» := true
    «t.parser.GetTransportLayer()» := match l4 with | .icmp4 _ => 1 | .icmp6 _ => 2 | .tcp _ => 3
    «layers.LayerTypeTCP» := 3
    «layers.LayerTypeICMPv4» := 1
    «t.parser.TCP.SYN» := t.syn
    «t.parser.TCP.ACK» := t.ackf
    «t.parser.TCP.RST» := t.rst
    «t.parser.GetIPPair().0 == t.ExpectedIPPair()» := decide (l3.src = s.cfg.target ∧ l3.dst = s.cfg.localA)
    «t.config.DestPort» := s.cfg.tport
    «t.parser.TCP.SrcPort» := t.sport
    «t.config.srcPort» := s.cfg.lport
    «t.parser.TCP.DstPort» := t.dport
    «t.parser.TCP.Ack» := t.ack
    «t.getLastSentProbe().1 == nil» := (s.sent.getLast?).isSome
    «t.getLastSentProbe().0.seqNum» := last.seq
    «t.config.ParisTracerouteMode» := s.cfg.paris
    «t.getLastSentProbe().0 == probeData{}» := false
    «time.Since(t.getLastSentProbe().0.sendTime)» := 0
    «t.getLastSentProbe().0.ttl» := last.ttl
    «t.parser.IsTTLExceeded()» := isTE l4
    «t.parser.GetICMPInfo().1 == nil» := (infoOf l4).isSome
    «t.parser.GetICMPInfo().0.WrappedProtocol» := info.proto
    «packets.ParseTCPFirstBytes(t.parser.GetICMPInfo().0.Payload).1 == nil» := (quotedPorts info.payload).isSome && (quotedSeq info.payload).isSome
    «netip.AddrPortFrom(t.parser.GetICMPInfo().0.ICMPPair.DstAddr, packets.ParseTCPFirstBytes(t.parser.GetICMPInfo().0.Payload).0.DstPort) == t.getTargetAddrPort()» :=
      decide (info.qdst = s.cfg.target ∧ ports.2 = s.cfg.tport)
    «t.config.LoosenICMPSrc» := s.cfg.loosen
    «netip.AddrPortFrom(t.parser.GetICMPInfo().0.ICMPPair.SrcAddr, packets.ParseTCPFirstBytes(t.parser.GetICMPInfo().0.Payload).0.SrcPort) == t.getLocalAddrPort()» :=
      decide (info.qsrc = s.cfg.localA ∧ ports.1 = s.cfg.lport)
    «t.findMatchingProbe(t.parser.GetICMPInfo().0.WrappedPacketID, packets.ParseTCPFirstBytes(t.parser.GetICMPInfo().0.Payload).0.Seq) == probeData{}» := (foundQ s l4).isNone
    «time.Since(t.findMatchingProbe(t.parser.GetICMPInfo().0.WrappedPacketID, packets.ParseTCPFirstBytes(t.parser.GetICMPInfo().0.Payload).0.Seq).sendTime)» := 0
    «t.findMatchingProbe(t.parser.GetICMPInfo().0.WrappedPacketID, packets.ParseTCPFirstBytes(t.parser.GetICMPInfo().0.Payload).0.Seq).ttl» := ((foundQ s l4).getD dSent).ttl }

section
open TRV.Proofs.TieCommon

theorem kind_bad : retryable (kindIn (LogicTcp.sentinels ++ commonTable) "common.BadPacketError") = true :=
  retryable_common (by simp [LogicTcp.sentinels]) retryable_bad

theorem kind_nomatch :
    retryable (kindIn (LogicTcp.sentinels ++ commonTable) "common.ErrPacketDidNotMatchTraceroute") = true :=
  retryable_common (by simp [LogicTcp.sentinels]) retryable_nomatch

/-- the error of `getLastSentProbe` is wrapped, not classified: fatal for the engines -/
theorem kind_wrap :
    retryable (kindIn (LogicTcp.sentinels ++ commonTable) "fmt.Errorf %w t.getLastSentProbe().1") = false := by
  simp [retryable, kindIn, commonTable, LogicTcp.sentinels, LogicCommon.sentinels]

theorem interp_err (probe : Option Sent) (src : Bytes) (e : List String) (k : String) :
    interp probe src ⟨e, [("0", V.nil), ("1", V.err k)]⟩
      = if retryable (kindIn (LogicTcp.sentinels ++ commonTable) k) then .retry else .fatal := by
  simp only [interp, get_pair]
  rfl

end

theorem interp_ok (p : Sent) (src : Bytes) (e : List String) (t rtt : Int) (d : Bool) :
    interp (some p) src ⟨e, [("0", V.ref "new common.ProbeResponse"), ("0.TTL", V.int t), ("0.IP", V.ref "t.parser.GetIPPair().0.SrcAddr"),
      ("0.RTT", V.int rtt), ("0.IsDest", V.bool d), ("1", V.nil)]⟩ = .accept t.toNat src d p.time := by
  simp [interp, Proofs.TieCommon.get_ok]

/-- `getNextPacketIDAndSeqNum` is the model's `tcpIds` (per-probe random sequence number as an input) -/
theorem tie_tcp_ids (cfg : TcpCfg) (ttl rnd : Nat) :
    (LogicTcp.getNextPacketIDAndSeqNum.run
      { «t.config.ParisTracerouteMode» := cfg.paris, «rand.Uint32()» := rnd, «t.basePacketID» := cfg.baseId,
        «ttl» := ttl, «t.seqNum» := cfg.seq }).rets
      = [("0", V.int ((tcpIds cfg ttl rnd).1 : Int)), ("1", V.int ((tcpIds cfg ttl rnd).2 : Int))] := by
  unfold LogicTcp.getNextPacketIDAndSeqNum.run tcpIds
  cases cfg.paris <;> simp

/-- the time-exceeded arm of `handle` once the quoted information is known (the counterpart of
    `TieUdp.rest`); the proof of `tie_tcp_handle` splits the tree directly and does not go through it -/
def restI (s : TcpSt) (src : Bytes) (info : ICMPInfo) : Out :=
  if info.proto ≠ 6 then .retry else
  match quotedPorts info.payload, quotedSeq info.payload with
  | some (sp, dp), some sq =>
    if ¬ (info.qdst = s.cfg.target ∧ dp = s.cfg.tport) then .retry
    else if !s.cfg.loosen ∧ ¬ (info.qsrc = s.cfg.localA ∧ sp = s.cfg.lport) then .retry
    else match s.sent.find? (fun p => p.id = info.wrappedId ∧ p.seq = sq) with
      | none => .retry
      | some p => .accept p.ttl src false p.time
  | _, _ => .retry

-- `Ne.symm`: the port comparisons close whichever way round the source writes them
set_option linter.unusedSimpArgs false in
attribute [local simp] interp_err interp_ok kind_bad kind_nomatch kind_wrap infoOf foundQ in
/-- for every driver state and every parsed packet, the model's TCP SYN matcher is the decision tree
    regenerated from `tcpDriver.handleProbeLayers` -/
theorem tie_tcp_handle (s : TcpSt) (l3 : L3) (l4 : L4) :
    interp (credited s l4) l3.src (LogicTcp.handleProbeLayers.run (atoms s l3 l4)) = handle s l3 l4 := by
  unfold LogicTcp.handleProbeLayers.run
  dsimp only [atoms, credited]
  cases l4 with
  | icmp6 i => simp [handle]
  | tcp t =>
    -- `Ack - 1` in `uint32`
    have hm : (t.ack % 4294967296 + 4294967296 - 1 % 4294967296) % 4294967296
        = (t.ack + 4294967295) % 4294967296 :=
      (Proofs.TieCommon.sub_mod t.ack 1 (by decide)).trans
        (by rw [show t.ack + 4294967296 - 1 % 4294967296 = t.ack + 4294967295 by omega])
    simp only [handle, tOf, hm, beq_iff_eq, Bool.not_true, Bool.false_eq_true, ↓reduceIte]
    by_cases hf : (!(t.syn && t.ackf) && !t.rst && !(t.rst && t.ackf)) = true
    · simp only [hf, ↓reduceIte]
      simp
    · simp only [hf]
      by_cases hp : l3.src = s.cfg.target ∧ l3.dst = s.cfg.localA
      · by_cases h1 : s.cfg.tport = t.sport
        · by_cases h2 : s.cfg.lport = t.dport
          · rcases hl : s.sent.getLast? with _ | last
            · simp [*]
            · simp [*, dSent]
              by_cases hq : (t.syn = true ∧ t.ackf = true ∨ t.rst = true ∧ t.ackf = true) ∧
                  ¬last.seq = (t.ack + 4294967295) % 4294967296 <;> simp [hq]
          · simp [*, Ne.symm h2]
        · simp [*, Ne.symm h1]
      · simp [hp]
  | icmp4 i =>
    by_cases hte : i.type = 11 ∧ i.code = 0
    · simp only [handle, isTE, hte, beq_iff_eq, Int.reduceEq, Bool.not_true, Bool.false_eq_true, decide_true, and_self, ↓reduceIte]
      rcases hi : icmpInfo4 i with _ | info
      · simp [hi]
      · by_cases hp : info.proto = 6
        · rcases hq : quotedPorts info.payload with _ | ⟨sp, dp⟩
          · simp [*]
          · rcases hs : quotedSeq info.payload with _ | sq
            · simp [*]
            · by_cases hd : info.qdst = s.cfg.target ∧ dp = s.cfg.tport
              · by_cases hsrc : s.cfg.loosen = true ∨ (info.qsrc = s.cfg.localA ∧ sp = s.cfg.lport)
                · rcases hf : s.sent.find? (fun p => decide (p.id = info.wrappedId) && decide (p.seq = sq)) with _ | p <;>
                    refine hsrc.elim (fun h1 => ?_) (fun h1 => ?_) <;> simp [*]
                · simp [*, not_or.mp hsrc]
              · simp [*]
        · simp [*]
    · simp [handle, isTE, hte]

#print axioms tcpRecv_eq_handle
#print axioms kind_bad
#print axioms kind_nomatch
#print axioms kind_wrap
#print axioms interp_err
#print axioms interp_ok
#print axioms tie_tcp_ids
#print axioms tie_tcp_handle

end TRV.Props.TieTcp
