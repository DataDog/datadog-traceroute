import TRV.Proofs.Isolation
import TRV.Proofs.Alloc
import TRV.Proofs.Retries
import TRV.Proofs.Engine
import TRV.Proofs.Sound
import TRV.Proofs.Send
import TRV.Proofs.Accept
/-!
# C11 — Concurrent traceroutes are isolated; identifier ranges never overlap

Layout of the argument, in the order of the file:

1. allocators (`packets.AllocPacketID`, `icmp.nextEchoID`): blocks / ids handed out from ANY start
   counter are pairwise disjoint / distinct while at most 65536 identifiers were handed out
   (`c11_blocks_disjoint`, `c11_echo_distinct`); concurrent callers get what SOME sequential order
   of the same calls gets (`c11_linearizable`), hence disjoint blocks too
   (`c11_concurrent_blocks_disjoint`).
2. isolation on raw bytes: under `FlowsDistinct…` no packet is genuine (`Spec.genuine*`) for two
   concurrent runs of one protocol (`c11_isolation_*`), and runs of different protocols are isolated
   with NO hypothesis on their flows (`c11_cross_protocol_genuine`, `…genuine6`; TCP SYN next to
   SACK, both protocol 6, need `FlowsDistinctTcpSack`).  Finding F11, repaired: before the fix (repo
   commit dabb9f9) the quoted IP protocol was not looked at and a UDP run and a TCP run with equal
   port numbers and aligned IP ids cross-matched; the matchers demand the quoted protocol and the
   genuineness predicates include it.  The section ends with the matcher-level statement for the
   IPv6 pairs and the TCP-SYN/SACK pair (`c11_not_both_accepted_more`) and with two bridges: from
   disjoint blocks to `IdsDisjoint`, and from the oracle's Bool form to `FlowsDistinctSack`.
3. matchers, IPv4: with `Proofs.*_sound`, a packet accepted by one run's matcher is not accepted by
   the other run's matcher (`c11_not_both_accepted_*`, across protocols
   `c11_cross_protocol_matchers`); it is classified `retry` there (`c11_foreign_is_retry_*`).
4. engines (at the end of section 3): outcome lists that differ only by `retry` entries give the
   same result (`c11_run_alone_eq`, `c11_run_alone_eq_serial`): the run on the shared wire returns
   what it returns alone.
5. the witnesses of F11, kept as regression statements (`c11_f11_*_fixed`).
-/
namespace TRV.Props.C11
open TRV TRV.Alloc TRV.Spec TRV.Drv TRV.Wire TRV.Engine TRV.Proofs

/-- For EVERY start value of the 32-bit counter (including values next to the 2^32 and 2^16
    wrap-arounds) and every list of requested block sizes whose sum is at most 65536 (in particular
    "fewer than 65536 identifiers live"), the identifier sets `{base + t | 1 ≤ t ≤ n}` (16-bit
    wrap-around) of distinct allocations of the sequence are pairwise disjoint. -/
theorem c11_blocks_disjoint (cur : BitVec 32) (reqs : List (BitVec 8)) (h : total reqs ≤ 65536) :
    PairwiseDisjoint (allocSeq cur reqs).1 := by
  rw [allocSeq_blocks]; exact blocks_pairwise reqs cur h

/-- The base `AllocPacketID` returns is the low 16 bits of the counter BEFORE the call, and the
    counter advances by the block size (mod 2^32): `uint16(cur.Add(n) − n)`. -/
theorem c11_packetID_value (cur : BitVec 32) (n : BitVec 8) :
    packetID cur n = (cur.truncate 16, cur + n.zeroExtend 32) := by
  rw [← packetID_base, ← packetID_ctr]

/-- At most 65536 consecutive `nextEchoID` results are pairwise distinct, from every start value. -/
theorem c11_echo_distinct (cur : BitVec 32) (m : Nat) (h : m ≤ 65536) : Distinct (echoSeq cur m).1 := by
  rw [echoSeq_ids]; exact echoIds_pairwise m cur h

/-- The linear-time forms the oracle evaluates (`blocks`, `echoIds`, counter-only folds) are the
    fold models `allocSeq` / `echoSeq` the theorems are about. -/
theorem c11_oracle_forms (cur : BitVec 32) (reqs : List (BitVec 8)) (m : Nat) :
    (allocSeq cur reqs).1 = blocks cur reqs ∧
    (allocSeq cur reqs).2 = reqs.foldl (fun c n => (packetID c n).2) cur ∧
    (echoSeq cur m).1 = echoIds cur m ∧ (echoSeq cur m).2 = cur + BitVec.ofNat 32 m :=
  ⟨allocSeq_blocks cur reqs, allocSeq_ctr cur reqs, echoSeq_ids cur m, echoSeq_ctr cur m⟩

/-- Linearizability of the allocator under concurrent callers: for EVERY schedule of the two steps
    of each calling goroutine (atomic `Add`; later the local `uint16(next − n)` and return), once
    every caller has returned, the multiset of (caller, block) results is that of the SEQUENTIAL
    execution of the same calls in the order of their `Add` steps — a permutation of the request
    order. -/
theorem c11_linearizable (req : Nat → BitVec 8) (cur : BitVec 32) (sched : List Step)
    (hdone : (concRun req cur sched).pend = []) :
    (concRun req cur sched).done.Perm (seqRun req cur (addOrder sched)).1 ∧
    (concRun req cur sched).ctr = (seqRun req cur (addOrder sched)).2 := by
  obtain ⟨h1, h2⟩ := concInv_run req cur sched
  rw [hdone] at h2
  exact ⟨by simpa using h2, h1⟩

/-- At every point of every schedule: blocks already returned plus the blocks the goroutines
    between their two steps are going to return = the sequential results (as multisets). -/
theorem c11_linearizable_prefix (req : Nat → BitVec 8) (cur : BitVec 32) (sched : List Step) :
    ((concRun req cur sched).done ++ (concRun req cur sched).pend.map (retOf req)).Perm
      (seqRun req cur (addOrder sched)).1 :=
  (concInv_run req cur sched).2

/-- Hence: blocks returned to concurrent callers are pairwise disjoint while the callers that
    performed their `Add` requested at most 65536 identifiers in total. -/
theorem c11_concurrent_blocks_disjoint (req : Nat → BitVec 8) (cur : BitVec 32) (sched : List Step)
    (h : total ((addOrder sched).map req) ≤ 65536) :
    PairwiseDisjoint (((concRun req cur sched).done ++ (concRun req cur sched).pend.map (retOf req)).map (·.2)) := by
  have hp := (c11_linearizable_prefix req cur sched).map (·.2)
  rw [seqRun_blocks] at hp
  exact hp.symm.pairwise (blocks_pairwise _ cur h) fun h x hx hx' => h x hx' hx

/-- ICMP/IPv4: if the echo identifiers differ or the targets differ, no packet is a genuine reply
    for both runs (whatever TTL, responder and destination flag it is credited with). -/
theorem c11_isolation_icmp4 {A B : IcmpCfg} {sA sB : List Sent} {t t' : Nat} {a a' : Bytes} {d d' : Bool} {p : Bytes}
    (hd : FlowsDistinctIcmp A B) (hA : genuineIcmp4 A sA t a d p = true) :
    genuineIcmp4 B sB t' a' d' p = false := isolation_icmp4 hd hA

/-- UDP/IPv4: target addr:port differ, or both runs strict and local addr:port differ. -/
theorem c11_isolation_udp4 {A B : UdpCfg} {sA sB : List Sent} {t t' : Nat} {a a' : Bytes} {d d' : Bool} {p : Bytes}
    (hd : FlowsDistinctUdp A B) (hA : genuineUdp4 A sA t a d p = true) :
    genuineUdp4 B sB t' a' d' p = false := isolation_udp4 hd hA

/-- TCP SYN: target addr:port differ, or local addr:port differ and (both strict or the probes'
    (IP id, seq) pairs are disjoint). -/
theorem c11_isolation_tcp {A B : TcpCfg} {sA sB : List Sent} {t t' : Nat} {a a' : Bytes} {d d' : Bool} {p : Bytes}
    (hd : FlowsDistinctTcp A B sA sB) (hA : genuineTcp A sA t a d p = true) :
    genuineTcp B sB t' a' d' p = false := isolation_tcp hd hA

/-- SACK: target addr:port differ, or local addr:port differ and (both strict or the sequence-number
    windows ISN + [min,max] are disjoint). -/
theorem c11_isolation_sack {A B : SackCfg} {sA sB : List Sent} {t t' : Nat} {a a' : Bytes} {d d' : Bool} {p : Bytes}
    (hd : FlowsDistinctSack A B) (hA : genuineSack A sA t a d p = true) :
    genuineSack B sB t' a' d' p = false := isolation_sack hd hA

/-- Cross-protocol, IPv4, on raw bytes: a packet genuine for a run of one protocol is not genuine
    for a run of another protocol, whatever addresses, ports, identifiers and sent probes the two
    runs have (equal port numbers and aligned IP ids included — the F11 scenario).  ICMP vs UDP,
    ICMP vs TCP SYN, ICMP vs SACK, UDP vs TCP SYN, UDP vs SACK; each statement is symmetric (it says
    "not both").  TCP SYN vs SACK share protocol 6 and are separated by the OS port space
    (`FlowsDistinct…` hypotheses as for two runs of one protocol). -/
theorem c11_cross_protocol_genuine {I : IcmpCfg} {U : UdpCfg} {C : TcpCfg} {S : SackCfg}
    {sI sU sC sS : List Sent} {p : Bytes} :
    (∀ t a d t' a' d', genuineIcmp4 I sI t a d p = true → genuineUdp4 U sU t' a' d' p = false) ∧
    (∀ t a d t' a' d', genuineIcmp4 I sI t a d p = true → genuineTcp C sC t' a' d' p = false) ∧
    (∀ t a d t' a' d', genuineIcmp4 I sI t a d p = true → genuineSack S sS t' a' d' p = false) ∧
    (∀ t a d t' a' d', genuineUdp4 U sU t a d p = true → genuineTcp C sC t' a' d' p = false) ∧
    (∀ t a d t' a' d', genuineUdp4 U sU t a d p = true → genuineSack S sS t' a' d' p = false) := by
  refine ⟨?_, ?_, ?_, ?_, ?_⟩ <;> intro t a d t' a' d' h <;> refine Bool.eq_false_iff.mpr fun h' => ?_
  · exact icmp_udp_excl (sig_icmp4 h) (sig_udp4 h')
  · exact icmp_tcp_excl (sig_icmp4 h) (sig_tcp h')
  · exact icmp_tcp_excl (sig_icmp4 h) (sig_sack h')
  · exact udp_tcp_excl (sig_udp4 h) (sig_tcp h')
  · exact Bool.eq_false_iff.mp (isolation_udp4_sack h') h

/-- UDP vs TCP SYN, the pair of F11, once more from the TCP side and with no hypothesis on the flows
    (`Spec.FlowsDistinctUdpTcp` serves the oracle only: no theorem assumes it). -/
theorem c11_isolation_udp4_tcp {U : UdpCfg} {C : TcpCfg} {sU sC : List Sent} {t t' : Nat} {a a' : Bytes} {d d' : Bool} {p : Bytes}
    (hC : genuineTcp C sC t a d p = true) :
    genuineUdp4 U sU t' a' d' p = false :=
  Bool.eq_false_iff.mpr fun hU => udp_tcp_excl (sig_udp4 hU) (sig_tcp hC)

/-- ICMPv6: the echo identifiers differ, or the targets differ -/
theorem c11_isolation_icmp6 {A B : IcmpCfg} {sA sB : List Sent} {t t' : Nat} {a a' : Bytes} {d d' : Bool} {p : Bytes}
    (hd : FlowsDistinctIcmp A B) (hA : genuineIcmp6 A sA t a d p = true) :
    genuineIcmp6 B sB t' a' d' p = false := isolation_icmp6 hd hA

/-- UDP over IPv6: as over IPv4 -/
theorem c11_isolation_udp6 {A B : UdpCfg} {sA sB : List Sent} {t t' : Nat} {a a' : Bytes} {d d' : Bool} {p : Bytes}
    (hd : FlowsDistinctUdp A B) (hA : genuineUdp6 A sA t a d p = true) :
    genuineUdp6 B sB t' a' d' p = false := isolation_udp6 hd hA

/-- ICMPv6 vs UDPv6: no hypothesis on the flows (quoted next header 58 vs 17; an echo reply is not
    an error message) -/
theorem c11_cross_protocol_genuine6 {I : IcmpCfg} {U : UdpCfg} {sI sU : List Sent} {p : Bytes}
    (t : Nat) (a : Bytes) (d : Bool) (t' : Nat) (a' : Bytes) (d' : Bool)
    (h : genuineIcmp6 I sI t a d p = true) : genuineUdp6 U sU t' a' d' p = false :=
  Bool.eq_false_iff.mpr fun h' => icmp6_udp6_excl (sig_icmp6 h) (sig_udp6 h')

/-- TCP SYN next to SACK (both protocol 6): under `FlowsDistinctTcpSack` — target addr:port
    differs, or the local addr:port differs (what the OS gives two TCP sockets) and both are strict
    or the SYN run's sequence numbers lie outside the SACK run's window — no packet is genuine for
    both.  With `c11_cross_protocol_genuine` this covers every pair of IPv4 variants. -/
theorem c11_isolation_tcp_sack {C : TcpCfg} {S : SackCfg} {sC sS : List Sent} {t t' : Nat} {a a' : Bytes} {d d' : Bool} {p : Bytes}
    (hd : FlowsDistinctTcpSack C S sC) (hC : genuineTcp C sC t a d p = true) :
    genuineSack S sS t' a' d' p = false := isolation_tcp_sack hd hC

/-- Matcher level, IPv6 and TCP-SYN/SACK: one packet is accepted by at most one of two concurrent
    runs. -/
theorem c11_not_both_accepted_more {sI sI' : IcmpSt} {sU sU' : UdpSt} {sC : TcpSt} {sS : SackSt} {pkt : Bytes}
    (hmin : 1 ≤ sI.cfg.min) (hmin' : 1 ≤ sI'.cfg.min)
    (hiU : UdpInv sU) (hiU' : UdpInv sU') (h6 : sU.cfg.target.length ≠ 4) (h6' : sU'.cfg.target.length ≠ 4) :
    ((∃ b0, u8 (pkt.take bufSize) 0 = some b0 ∧ b0 / 16 = 6) →
      (FlowsDistinctIcmp sI.cfg sI'.cfg →
        ¬ ((∃ t a d tm, icmpRecv sI pkt = .accept t a d tm) ∧ (∃ t a d tm, icmpRecv sI' pkt = .accept t a d tm))) ∧
      (FlowsDistinctUdp sU.cfg sU'.cfg →
        ¬ ((∃ t a d tm, udpRecv sU pkt = .accept t a d tm) ∧ (∃ t a d tm, udpRecv sU' pkt = .accept t a d tm))) ∧
      ¬ ((∃ t a d tm, icmpRecv sI pkt = .accept t a d tm) ∧ (∃ t a d tm, udpRecv sU pkt = .accept t a d tm))) ∧
    ((∃ b0, u8 (pkt.take bufSize) 0 = some b0 ∧ b0 / 16 = 4) →
      FlowsDistinctTcpSack sC.cfg sS.cfg sC.sent →
        ¬ ((∃ t a d tm, tcpRecv sC pkt = .accept t a d tm) ∧ (∃ t a d tm, sackRecv sS pkt = .accept t a d tm))) := by
  refine ⟨fun hv6 => ⟨?_, ?_, ?_⟩, ?_⟩
  · rintro hd ⟨⟨_, _, _, _, hA⟩, ⟨_, _, _, _, hB⟩⟩
    exact Bool.eq_false_iff.mp (isolation_icmp6 hd (icmp6_sound hmin hA hv6)) (icmp6_sound hmin' hB hv6)
  · rintro hd ⟨⟨_, _, _, _, hA⟩, ⟨_, _, _, _, hB⟩⟩
    exact Bool.eq_false_iff.mp (isolation_udp6 hd (udp6_sound hA hv6)) (udp6_sound hB hv6)
  · rintro ⟨⟨_, _, _, _, hA⟩, ⟨_, _, _, _, hB⟩⟩
    exact icmp6_udp6_excl (sig_icmp6 (icmp6_sound hmin hA hv6)) (sig_udp6 (udp6_sound hB hv6))
  · rintro hv4 hd ⟨⟨_, _, _, _, hA⟩, ⟨_, _, _, _, hB⟩⟩
    exact Bool.eq_false_iff.mp (isolation_tcp_sack hd (tcp_sound hA hv4)) (sack_sound hB hv4)

/-- Disjoint `AllocPacketID` blocks discharge the `IdsDisjoint` disjunct of `FlowsDistinctTcp` in
    the default (non-Paris) mode: two runs whose probes carry ids `base + ttl` from disjoint blocks
    (TTLs within the block) never share an (IP id, seq) pair. -/
theorem c11_blocks_give_idsDisjoint {ba bb : Block} (hdis : Disjoint ba bb) {sa sb : List Sent}
    (ha : ∀ x ∈ sa, 1 ≤ x.ttl ∧ x.ttl ≤ ba.2 ∧ x.id = (idOf ba.1 x.ttl).toNat)
    (hb : ∀ y ∈ sb, 1 ≤ y.ttl ∧ y.ttl ≤ bb.2 ∧ y.id = (idOf bb.1 y.ttl).toNat) :
    IdsDisjoint sa sb := by
  intro x hx y hy ⟨hid, _⟩
  obtain ⟨a1, a2, a3⟩ := ha x hx
  obtain ⟨b1, b2, b3⟩ := hb y hy
  have he : idOf ba.1 x.ttl = idOf bb.1 y.ttl := BitVec.eq_of_toNat_eq (by rw [← a3, ← b3, hid])
  exact hdis _ (mem_used.mpr ⟨x.ttl, a1, a2, rfl⟩) (mem_used.mpr ⟨y.ttl, b1, b2, he⟩)

/-- The executable form of `FlowsDistinctSack` the oracle evaluates on the harness' scenarios is the
    `Prop` used above (the other `FlowsDistinct…` are evaluated through their `Decidable` instances). -/
theorem c11_flowsDistinctSackB_iff (a b : SackCfg) : flowsDistinctSackB a b = true ↔ FlowsDistinctSack a b := by
  simp only [flowsDistinctSackB, FlowsDistinctSack, Bool.or_eq_true, Bool.and_eq_true, decide_eq_true_eq,
    beq_iff_eq, seqWindowsDisjointB_iff]

/-! ## 3. Matchers: a packet accepted by one run is never accepted by a concurrent run -/

theorem c11_not_both_accepted_icmp4 {sA sB : IcmpSt} {pkt : Bytes} {t : Nat} {a : Bytes} {d : Bool} {tm : Nat}
    (hd : FlowsDistinctIcmp sA.cfg sB.cfg) (hv4 : ∃ b0, u8 pkt 0 = some b0 ∧ b0 / 16 = 4)
    (hA : icmpRecv sA pkt = .accept t a d tm) (t' : Nat) (a' : Bytes) (d' : Bool) (tm' : Nat) :
    icmpRecv sB pkt ≠ .accept t' a' d' tm' :=
  fun hB => Bool.eq_false_iff.mp (isolation_icmp4 hd (icmp4_sound hA (version_take hv4)))
    (icmp4_sound hB (version_take hv4))

/-- The statement carries `UdpInv` (the recorded ids are the ids of the recorded TTLs; it holds in
    every state reached by `udpSend` from the empty state: `udpInv_init`, `udpInv_send`) and the
    targets' lengths; its proof uses neither. -/
theorem c11_not_both_accepted_udp4 {sA sB : UdpSt} {pkt : Bytes} {t : Nat} {a : Bytes} {d : Bool} {tm : Nat}
    (hd : FlowsDistinctUdp sA.cfg sB.cfg) (hiA : UdpInv sA) (hiB : UdpInv sB)
    (h4A : sA.cfg.target.length = 4) (h4B : sB.cfg.target.length = 4)
    (hv4 : ∃ b0, u8 (pkt.take bufSize) 0 = some b0 ∧ b0 / 16 = 4)
    (hA : udpRecv sA pkt = .accept t a d tm) (t' : Nat) (a' : Bytes) (d' : Bool) (tm' : Nat) :
    udpRecv sB pkt ≠ .accept t' a' d' tm' :=
  fun hB => Bool.eq_false_iff.mp (isolation_udp4 hd (udp4_sound hA hv4)) (udp4_sound hB hv4)

theorem c11_not_both_accepted_tcp {sA sB : TcpSt} {pkt : Bytes} {t : Nat} {a : Bytes} {d : Bool} {tm : Nat}
    (hd : FlowsDistinctTcp sA.cfg sB.cfg sA.sent sB.sent)
    (hv4 : ∃ b0, u8 (pkt.take bufSize) 0 = some b0 ∧ b0 / 16 = 4)
    (hA : tcpRecv sA pkt = .accept t a d tm) (t' : Nat) (a' : Bytes) (d' : Bool) (tm' : Nat) :
    tcpRecv sB pkt ≠ .accept t' a' d' tm' :=
  fun hB => Bool.eq_false_iff.mp (isolation_tcp hd (tcp_sound hA hv4)) (tcp_sound hB hv4)

theorem c11_not_both_accepted_sack {sA sB : SackSt} {pkt : Bytes} {t : Nat} {a : Bytes} {d : Bool} {tm : Nat}
    (hd : FlowsDistinctSack sA.cfg sB.cfg)
    (hv4 : ∃ b0, u8 (pkt.take bufSize) 0 = some b0 ∧ b0 / 16 = 4)
    (hA : sackRecv sA pkt = .accept t a d tm) (t' : Nat) (a' : Bytes) (d' : Bool) (tm' : Nat) :
    sackRecv sB pkt ≠ .accept t' a' d' tm' :=
  fun hB => Bool.eq_false_iff.mp (isolation_sack hd (sack_sound hA hv4)) (sack_sound hB hv4)

theorem c11_not_both_accepted_udp4_tcp {sU : UdpSt} {sC : TcpSt} {pkt : Bytes} {t : Nat} {a : Bytes} {d : Bool} {tm : Nat}
    (hiU : UdpInv sU) (h4U : sU.cfg.target.length = 4)
    (hv4 : ∃ b0, u8 (pkt.take bufSize) 0 = some b0 ∧ b0 / 16 = 4)
    (hC : tcpRecv sC pkt = .accept t a d tm) (t' : Nat) (a' : Bytes) (d' : Bool) (tm' : Nat) :
    udpRecv sU pkt ≠ .accept t' a' d' tm' :=
  fun hU => Bool.eq_false_iff.mp (c11_isolation_udp4_tcp (tcp_sound hC hv4)) (udp4_sound hU hv4)

/-- Matcher level, any mix of protocols on IPv4: one packet is accepted by the matchers of at most
    one of an ICMP run, a UDP run and a TCP-SYN-or-SACK run, for ALL states of the runs (no
    hypothesis on flows or identifiers). -/
theorem c11_cross_protocol_matchers {sI : IcmpSt} {sU : UdpSt} {sC : TcpSt} {sS : SackSt} {pkt : Bytes}
    (hiU : UdpInv sU) (h4U : sU.cfg.target.length = 4)
    (hv4 : ∃ b0, u8 (pkt.take bufSize) 0 = some b0 ∧ b0 / 16 = 4)
    (hv4' : ∃ b0, u8 pkt 0 = some b0 ∧ b0 / 16 = 4) :
    let accI := ∃ t a d tm, icmpRecv sI pkt = .accept t a d tm
    let accU := ∃ t a d tm, udpRecv sU pkt = .accept t a d tm
    let accC := ∃ t a d tm, tcpRecv sC pkt = .accept t a d tm
    let accS := ∃ t a d tm, sackRecv sS pkt = .accept t a d tm
    ¬ (accI ∧ accU) ∧ ¬ (accI ∧ accC) ∧ ¬ (accI ∧ accS) ∧ ¬ (accU ∧ accC) ∧ ¬ (accU ∧ accS) := by
  intro accI accU accC accS
  have gI : accI → SigQuoted (pkt.take bufSize) 1 ∨ SigEcho (pkt.take bufSize) :=
    fun ⟨_, _, _, _, h⟩ => sig_icmp4 (icmp4_sound h hv4)
  have gU : accU → SigQuoted (pkt.take bufSize) 17 :=
    fun ⟨_, _, _, _, h⟩ => sig_udp4 (udp4_sound h hv4)
  have gC : accC → SigQuoted (pkt.take bufSize) 6 ∨ SigTcp (pkt.take bufSize) :=
    fun ⟨_, _, _, _, h⟩ => sig_tcp (tcp_sound h hv4)
  have gS : accS → SigQuoted (pkt.take bufSize) 6 ∨ SigTcp (pkt.take bufSize) :=
    fun ⟨_, _, _, _, h⟩ => sig_sack (sack_sound h hv4)
  exact ⟨fun ⟨a, b⟩ => icmp_udp_excl (gI a) (gU b), fun ⟨a, b⟩ => icmp_tcp_excl (gI a) (gC b),
    fun ⟨a, b⟩ => icmp_tcp_excl (gI a) (gS b), fun ⟨a, b⟩ => udp_tcp_excl (gU a) (gC b),
    fun ⟨a, b⟩ => udp_tcp_excl (gU a) (gS b)⟩

/-- A reply accepted by run B is a `retry` (ignored packet: neither a hop, nor a fatal error, nor
    `NotSupported`) for a concurrent run A. -/
theorem c11_foreign_is_retry_icmp4 {sA sB : IcmpSt} {pkt : Bytes} {t : Nat} {a : Bytes} {d : Bool} {tm : Nat}
    (hd : FlowsDistinctIcmp sA.cfg sB.cfg) (hv4 : ∃ b0, u8 pkt 0 = some b0 ∧ b0 / 16 = 4)
    (hB : icmpRecv sB pkt = .accept t a d tm) : icmpRecv sA pkt = .retry := by
  have hc := icmpRecv_class sA pkt (ne_nil_of_version (version_take hv4))
  exact Out.eq_retry hc.1 hc.2 fun t' a' d' tm' hA => c11_not_both_accepted_icmp4 hd hv4 hA t a d tm hB

theorem c11_foreign_is_retry_udp4 {sA sB : UdpSt} {pkt : Bytes} {t : Nat} {a : Bytes} {d : Bool} {tm : Nat}
    (hd : FlowsDistinctUdp sA.cfg sB.cfg) (hiA : UdpInv sA) (hiB : UdpInv sB)
    (h4A : sA.cfg.target.length = 4) (h4B : sB.cfg.target.length = 4)
    (hv4 : ∃ b0, u8 (pkt.take bufSize) 0 = some b0 ∧ b0 / 16 = 4)
    (hB : udpRecv sB pkt = .accept t a d tm) : udpRecv sA pkt = .retry := by
  have hc := udpRecv_class sA pkt (ne_nil_of_version hv4)
  exact Out.eq_retry hc.1 hc.2 fun t' a' d' tm' hA => c11_not_both_accepted_udp4 hd hiA hiB h4A h4B hv4 hA t a d tm hB

/-- TCP SYN (serial engine: a probe has been sent before anything is received) -/
theorem c11_foreign_is_retry_tcp {sA sB : TcpSt} {pkt : Bytes} {t : Nat} {a : Bytes} {d : Bool} {tm : Nat}
    (hd : FlowsDistinctTcp sA.cfg sB.cfg sA.sent sB.sent) (hsent : sA.sent ≠ [])
    (hv4 : ∃ b0, u8 (pkt.take bufSize) 0 = some b0 ∧ b0 / 16 = 4)
    (hB : tcpRecv sB pkt = .accept t a d tm) : tcpRecv sA pkt = .retry := by
  have hc := tcpRecv_class sA pkt (ne_nil_of_version hv4)
  exact Out.eq_retry (hc.2 hsent) hc.1 fun t' a' d' tm' hA => c11_not_both_accepted_tcp hd hv4 hA t a d tm hB

/-- SACK: in particular a foreign reply never ends run A with `NotSupported` -/
theorem c11_foreign_is_retry_sack {sA sB : SackSt} {pkt : Bytes} {t : Nat} {a : Bytes} {d : Bool} {tm : Nat}
    (hd : FlowsDistinctSack sA.cfg sB.cfg)
    (hv4 : ∃ b0, u8 (pkt.take bufSize) 0 = some b0 ∧ b0 / 16 = 4)
    (hB : sackRecv sB pkt = .accept t a d tm) : sackRecv sA pkt = .retry := by
  refine Out.eq_retry (sackRecv_class sA pkt (ne_nil_of_version hv4)) (fun hA => ?_)
    fun t' a' d' tm' hA => c11_not_both_accepted_sack hd hv4 hA t a d tm hB
  -- the segment would lie on both runs' tuples
  obtain ⟨l3, tt, hp, h⟩ := (sackRecv_notSupported_iff sA pkt).mp hA
  obtain ⟨_, _, _, hp', hacc, _⟩ := (hB ▸ sackRecv_verdict sB pkt).of_accept
  cases hp.symm.trans hp'
  cases hacc with
  | direct g g3 g4 =>
    rcases hd with (hd | hd) | ⟨hd | hd, _⟩
    · exact hd (h.src.symm.trans g.1)
    · exact hd (h.sport.symm.trans g3.symm)
    · exact hd (h.dst.symm.trans g.2)
    · exact hd (h.dport.symm.trans g4.symm)

/-- `TracerouteParallel`: two consumed outcome lists that differ only by `retry` entries (the
    foreign packets of the shared wire, by section 3) give the same return value — the same hop
    list or the same error. -/
theorem c11_run_alone_eq {min max : Nat} {sp : Bool} {shared alone : List ROut} {sendErr extCancel : Bool}
    (h : SameUpToRetries shared alone) :
    parallelRun min max sp shared sendErr extCancel = parallelRun min max sp alone sendErr extCancel := by
  rw [← parallelRun_dropRetry min max sp shared, ← parallelRun_dropRetry min max sp alone, h]

/-- The same through C07: both runs succeed with `expected` of the same accepted sequence. -/
theorem c11_run_alone_eq_expected {min max : Nat} {shared alone : List ROut} {r : List (Option Probe)}
    (h : SameUpToRetries shared alone)
    (hr : parallelRun min max true shared false false = .ok r) :
    r = Spec.expected min max (accepted alone) := by
  have := (parallel_result hr).1
  rw [this, ← accepted_dropRetry shared, h, accepted_dropRetry]

/-- `TracerouteSerial` (TCP SYN): per-TTL windows that differ only by `retry` entries. -/
theorem c11_run_alone_eq_serial {min max : Nat} {shared alone : List (List ROut)} {sendErr extCancel : Bool}
    (h : shared.map dropRetry = alone.map dropRetry) :
    serialRun min max shared sendErr extCancel = serialRun min max alone sendErr extCancel := by
  unfold serialRun
  rw [← serialLoop_dropRetry min max shared, ← serialLoop_dropRetry min max alone, h]

/-! ## 5. Cross-protocol quote (finding F11, repaired): the former witness as a regression statement

Local host 10.0.0.1, target 10.0.0.9:443.  A strict UDP run and a strict TCP-SYN run both use local
port number 40000 (UDP and TCP port spaces are separate, the OS may hand out the same number).  The
TCP run's `AllocPacketID` base is 41820, so its TTL-3 SYN carries IP id 41823 = 41821 + 2, the id
of the UDP run's TTL-2 datagram.  Router 10.9.9.3 (the TCP run's third hop) answers the SYN with a
time-exceeded quoting it.  Before the fix the UDP run accepted that packet as its hop 2. -/

/-- ONE packet — the reply to the TCP run's TTL-3 probe — is accepted by the TCP run (hop 3 =
    10.9.9.3) and ignored by the UDP run. -/
theorem c11_f11_witness_fixed :
    tcpRecv f11TcpSt.1 f11Pkt = .accept 3 f11Router false 6 ∧
    udpRecv f11UdpSt f11Pkt = .retry := by decide

/-- … and by the raw-offset predicates (which include the quoted protocol) it is genuine for the
    TCP run only. -/
theorem c11_f11_genuine_only_for_own :
    genuineTcp f11TcpCfg f11TcpSt.1.sent 3 f11Router false f11Pkt = true ∧
    genuineUdp4 f11UdpCfg f11UdpSt.sent 2 f11Router false f11Pkt = false := by decide

/-- The reverse direction (a TCP run whose constant sequence number equals the UDP header's length
    and checksum words, base 41821): the reply to the UDP run's TTL-2 probe is accepted by the UDP
    run and ignored by that TCP run. -/
theorem c11_f11_reverse_fixed :
    udpRecv f11UdpSt (f11TE f11Router f11Local f11UdpProbe) = .accept 2 f11Router false 5 ∧
    tcpRecv f11TcpSt' (f11TE f11Router f11Local f11UdpProbe) = .retry := by decide +kernel

/-! ## Non-vacuity -/

/-- allocations across the 2^32 AND 2^16 wrap: counter 2^32 − 3, requests 30, 255, 1, 30 -/
example : (allocSeq 0xfffffffd#32 [30#8, 255#8, 1#8, 30#8]).1 =
    [(0xfffd#16, 30), (0x001b#16, 255), (0x011a#16, 1), (0x011b#16, 30)] := by decide

example : PairwiseDisjoint (allocSeq 0xfffffffd#32 [30#8, 255#8, 1#8, 30#8]).1 :=
  c11_blocks_disjoint _ _ (by decide)

/-- the bound is about identifiers, not calls: the ids of a block wrap past 0xffff -/
example : used 0xfffd#16 4 = [0xfffe#16, 0xffff#16, 0x0000#16, 0x0001#16] := by decide

/-- echo ids across the wrap: counter 0xfffffffe → 0xffff, 0x0000, 0x0001 -/
example : (echoSeq 0xfffffffe#32 3).1 = [0xffff#16, 0x0000#16, 0x0001#16] := by decide

/-- tightness: the 65537th echo id repeats the first -/
example (c : BitVec 32) : (echoID (c + 65536#32)).1 = (echoID c).1 := by
  simp only [echoID]; bv_omega

/-- a schedule in which goroutine 1's `Add` overtakes goroutine 0's between 0's two steps: results
    are those of the sequential order [0, 1] -/
example :
    let req : Nat → BitVec 8 := fun t => if t = 0 then 30#8 else 5#8
    (concRun req 0xfffffff0#32 [.add 0, .add 1, .ret 1, .ret 0]).done = [(1, (0x000e#16, 5)), (0, (0xfff0#16, 30))] ∧
    (seqRun req 0xfffffff0#32 [0, 1]).1 = [(0, (0xfff0#16, 30)), (1, (0x000e#16, 5))] := by decide

/-- contrast (the mutation "load + store instead of Add"): two goroutines that both load before
    either stores get the SAME echo id -/
example : (racyRun 7#32 [.load 0, .load 1, .store 0, .store 1]).out = [8#16, 8#16] := by decide

/-- isolation hypotheses are satisfiable and the conclusion is not vacuous: the F11 packet is
    genuine for the TCP run, and a second TCP run with another local port rejects it -/
example : genuineTcp { f11TcpCfg with lport := 40001 } f11TcpSt.1.sent 3 f11Router false f11Pkt = false :=
  c11_isolation_tcp (A := f11TcpCfg) (sA := f11TcpSt.1.sent)
    (Or.inr ⟨Or.inr (by decide), Or.inl ⟨rfl, rfl⟩⟩) c11_f11_genuine_only_for_own.1

/-- the TCP/SACK hypothesis is satisfiable in the way the OS provides it: same target, another local
    port, both strict -/
example : FlowsDistinctTcpSack f11TcpCfg
    { localA := f11Local, lport := 40001, target := f11Target, tport := 443, loosen := false, min := 1, max := 30, isn := 7, iack := 0, ts := none }
    f11TcpSt.1.sent :=
  Or.inr ⟨Or.inr (by decide), Or.inl ⟨rfl, rfl⟩⟩

example : dropRetry [.retry, .accept ⟨1, [10,0,0,1], 5, false⟩, .retry, .retry] = dropRetry [.accept ⟨1, [10,0,0,1], 5, false⟩] := by
  rfl

#print axioms c11_blocks_disjoint
#print axioms c11_packetID_value
#print axioms c11_echo_distinct
#print axioms c11_oracle_forms
#print axioms c11_linearizable
#print axioms c11_linearizable_prefix
#print axioms c11_concurrent_blocks_disjoint
#print axioms c11_isolation_icmp4
#print axioms c11_isolation_udp4
#print axioms c11_isolation_tcp
#print axioms c11_isolation_sack
#print axioms c11_cross_protocol_genuine
#print axioms c11_cross_protocol_matchers
#print axioms c11_isolation_udp4_tcp
#print axioms c11_isolation_icmp6
#print axioms c11_isolation_udp6
#print axioms c11_cross_protocol_genuine6
#print axioms c11_isolation_tcp_sack
#print axioms c11_not_both_accepted_more
#print axioms c11_blocks_give_idsDisjoint
#print axioms c11_flowsDistinctSackB_iff
#print axioms c11_not_both_accepted_icmp4
#print axioms c11_not_both_accepted_udp4
#print axioms c11_not_both_accepted_tcp
#print axioms c11_not_both_accepted_sack
#print axioms c11_not_both_accepted_udp4_tcp
#print axioms c11_foreign_is_retry_icmp4
#print axioms c11_foreign_is_retry_udp4
#print axioms c11_foreign_is_retry_tcp
#print axioms c11_foreign_is_retry_sack
#print axioms c11_run_alone_eq
#print axioms c11_run_alone_eq_expected
#print axioms c11_run_alone_eq_serial
#print axioms c11_f11_witness_fixed
#print axioms c11_f11_genuine_only_for_own
#print axioms c11_f11_reverse_fixed
end TRV.Props.C11
