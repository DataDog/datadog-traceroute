import TRV.Proofs.Accept
import TRV.Proofs.Engine
import TRV.Proofs.Link
import TRV.Proofs.Retries
/-!
# C09 — Malformed or hostile inbound bytes never crash or abort a run

The driver models are TOTAL functions on byte strings (every Go slice index in repository code is
guarded in the model exactly as in the code, so there is no panic outcome), and for every non-empty
byte string delivered by the capture layer the outcome is `accept` or `retry` — never `fatal` —
with the single SACK-specific exception stated by the property (`notSupported` for a TCP segment
on the probed connection without SACK blocks).  A zero-length read is a capture-layer fault
(C10), not a packet.  At the engine level, retryable outcomes inserted anywhere in a history do not
change the result.
-/
namespace TRV.Props.C09
open TRV TRV.Wire TRV.Drv TRV.Proofs TRV.Engine

theorem c09_icmp_never_fatal (s : IcmpSt) (pkt : Bytes) (h : pkt ≠ []) :
    icmpRecv s pkt ≠ .fatal ∧ icmpRecv s pkt ≠ .notSupported := icmpRecv_class s pkt h

theorem c09_udp_never_fatal (s : UdpSt) (pkt : Bytes) (h : pkt ≠ []) :
    udpRecv s pkt ≠ .fatal ∧ udpRecv s pkt ≠ .notSupported := udpRecv_class s pkt h

/-- TCP SYN: once a probe has been sent (the engines always send before they receive) no packet is
    fatal -/
theorem c09_tcp_never_fatal (s : TcpSt) (pkt : Bytes) (h : pkt ≠ []) (hs : s.sent ≠ []) :
    tcpRecv s pkt ≠ .fatal ∧ tcpRecv s pkt ≠ .notSupported :=
  ⟨(tcpRecv_class s pkt h).2 hs, (tcpRecv_class s pkt h).1⟩

theorem c09_sack_never_fatal (s : SackSt) (pkt : Bytes) (h : pkt ≠ []) : sackRecv s pkt ≠ .fatal :=
  sackRecv_class s pkt h

/-- **From frames**: whatever frames the kernel queues on the capture socket — runts, frames with
    nothing behind the Ethernet header, other EtherTypes, anything — a read of the capture source
    (after the `fix:` for finding F13) hands the drivers a NON-EMPTY packet, so the outcome of every
    matcher on it is `accept` or `retry` (and `notSupported` in the one SACK case), never `fatal`.
    Before the fix a 14-byte IP frame came back as a zero-length read and a shorter one as a decoder
    error, and either aborted the run. -/
theorem c09_frames_never_fatal (q : List Bytes) (p : Bytes) (rest : List Bytes)
    (h : Link.readNext q = some (p, rest)) :
    p ≠ [] ∧
    (∀ s : IcmpSt, icmpRecv s p ≠ .fatal) ∧ (∀ s : UdpSt, udpRecv s p ≠ .fatal) ∧
    (∀ s : TcpSt, s.sent ≠ [] → tcpRecv s p ≠ .fatal) ∧ (∀ s : SackSt, sackRecv s p ≠ .fatal) := by
  have hne := TRV.Proofs.Link.readNext_nonempty q h
  exact ⟨hne, fun s => (c09_icmp_never_fatal s p hne).1, fun s => (c09_udp_never_fatal s p hne).1,
    fun s hs => (c09_tcp_never_fatal s p hne hs).1, fun s => c09_sack_never_fatal s p hne⟩

/-- the only inbound packet that may end a run early: the target acknowledging on the probed
    connection (reversed tuple, not SYN/FIN/RST) without any SACK block -/
theorem c09_sack_abort_iff (s : SackSt) (pkt : Bytes) (h : pkt ≠ []) :
    sackRecv s pkt = .notSupported ↔
      ∃ l3 t, parse (pkt.take bufSize) = some (l3, .tcp t) ∧ l3.src = s.cfg.target ∧ l3.dst = s.cfg.localA ∧
        t.sport = s.cfg.tport ∧ t.dport = s.cfg.lport ∧ t.syn = false ∧ t.fin = false ∧ t.rst = false ∧
        minSack s.cfg.isn t.opts = none := by
  rw [sackRecv_notSupported_iff]
  exact exists_congr fun l3 => exists_congr fun t => and_congr_right fun _ =>
    ⟨fun h => ⟨h.src, h.dst, h.sport, h.dport, h.syn, h.fin, h.rst, h.blocks⟩,
     fun ⟨a, b, c, d, e, f, g, h⟩ => ⟨a, b, c, d, e, f, g, h⟩⟩

/-- noise is irrelevant (parallel engine): inserting a retryable outcome anywhere in the receiver's
    history leaves the result unchanged -/
theorem c09_noise_irrelevant_parallel (min max : Nat) (a b : List ROut) (se ec : Bool) :
    parallelRun min max true (a ++ .retry :: b) se ec = parallelRun min max true (a ++ b) se ec := by
  rw [← parallelRun_dropRetry min max true (a ++ .retry :: b), dropRetry_insert, parallelRun_dropRetry]

/-- noise is irrelevant (serial engine): inserting a retryable outcome anywhere inside a window
    leaves that window's outcome unchanged -/
theorem c09_noise_irrelevant_serial (min max : Nat) (a b : List ROut) :
    serialWindow min max (a ++ .retry :: b) = serialWindow min max (a ++ b) := by
  rw [← serialWindow_dropRetry min max (a ++ .retry :: b), dropRetry_insert, serialWindow_dropRetry]

/-- non-vacuity: classic hostile inputs — a 10-byte frame, an IPv4 header with IHL 4, a wrong version
    nibble — are retryable (evaluated on the UDP matcher) -/
example :
    let st : UdpSt := { cfg := { localA := [192,0,2,2], lport := 4000, target := [198,51,100,9], tport := 33434, loosen := false }, sent := [] }
    udpRecv st [0x45, 0, 0, 10, 0, 0, 0, 0, 64, 1] = .retry ∧
    udpRecv st (0x44 :: List.replicate 39 0) = .retry ∧
    udpRecv st (0x75 :: List.replicate 39 0) = .retry := by decide

#print axioms c09_icmp_never_fatal
#print axioms c09_udp_never_fatal
#print axioms c09_tcp_never_fatal
#print axioms c09_sack_never_fatal
#print axioms c09_frames_never_fatal
#print axioms c09_sack_abort_iff
#print axioms c09_noise_irrelevant_parallel
#print axioms c09_noise_irrelevant_serial
end TRV.Props.C09
