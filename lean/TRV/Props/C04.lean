import TRV.Proofs.Sound
import TRV.Proofs.Send
import TRV.Proofs.Engine
/-!
# C04 — Destination marking: only a proof-of-arrival reply from the target

For every accepted outcome `(t, a, dest)` of every driver model, on all packets:
* ICMP over IPv4: `dest` ⇔ the packet is an echo reply (type 0) — and then `a` is the target;
  a time-exceeded never marks the destination.  Over IPv6: `dest` ⇒ `a` is the target (`Spec.genuineIcmp6`
  itself branches on `dest` between the echo reply, type 129, and the time-exceeded form).
* UDP: `dest` ⇔ the responder `a` is the target (any matched ICMP error from the target).
* TCP SYN: `dest` ⇔ the packet is a SYN-ACK / RST from the target port; a time-exceeded never marks it.
* SACK: `dest` ⇔ a selective ACK from the target port, or a time-exceeded sent by the target itself.
These are read off the raw-byte predicates `Spec.genuine*` through the soundness theorems.
-/
namespace TRV.Props.C04
open TRV TRV.Wire TRV.Drv TRV.Spec TRV.Proofs

/-- ICMP/IPv4: a destination mark means an echo reply from the target; no mark means a
    time-exceeded (type 11) -/
theorem c04_icmp4_dest_iff {s : IcmpSt} {pkt : Bytes} {t : Nat} {a : Bytes} {d : Bool} {tm : Nat}
    (h : icmpRecv s pkt = .accept t a d tm) (hv4 : ∃ b0, u8 pkt 0 = some b0 ∧ b0 / 16 = 4) :
    (d = true → genuineIcmp4Echo s.cfg s.sent t a (pkt.take bufSize) = true ∧ a = s.cfg.target) ∧
    (d = false → genuineIcmp4TE s.cfg s.sent t a (pkt.take bufSize) = true) := by
  have hg := icmp4_sound h (version_take hv4)
  constructor
  · rintro rfl
    obtain ⟨v, ty, eid, eseq, g⟩ := genuineIcmp4Echo_iff.mp hg
    exact ⟨hg, g.target⟩
  · rintro rfl
    exact hg

/-- ICMP/IPv6 echo replies: destination mark ⇒ the responder is the target -/
theorem c04_icmp6_dest_from_target {s : IcmpSt} {pkt : Bytes} {t : Nat} {a : Bytes} {tm : Nat}
    (hmin : 1 ≤ s.cfg.min) (h : icmpRecv s pkt = .accept t a true tm)
    (hv6 : ∃ b0, u8 (pkt.take bufSize) 0 = some b0 ∧ b0 / 16 = 6) : a = s.cfg.target := by
  obtain ⟨v, ty, eid, eseq, g⟩ := genuineIcmp6Echo_iff.mp (icmp6_sound hmin h hv6)
  exact g.target

/-- UDP/IPv4: destination mark ⇔ the responder is the target -/
theorem c04_udp4_dest_iff {s : UdpSt} {pkt : Bytes} {t : Nat} {a : Bytes} {d : Bool} {tm : Nat}
    (hinv : UdpInv s) (h4 : s.cfg.target.length = 4) (h : udpRecv s pkt = .accept t a d tm)
    (hv4 : ∃ b0, u8 (pkt.take bufSize) 0 = some b0 ∧ b0 / 16 = 4) : d = decide (a = s.cfg.target) := by
  obtain ⟨v, q, sp, dp, g⟩ := genuineUdp4_iff.mp (udp4_sound h hv4)
  exact g.dest

/-- UDP/IPv6: destination mark ⇔ the responder is the target -/
theorem c04_udp6_dest_iff {s : UdpSt} {pkt : Bytes} {t : Nat} {a : Bytes} {d : Bool} {tm : Nat}
    (hinv : UdpInv s) (h6 : s.cfg.target.length ≠ 4) (h : udpRecv s pkt = .accept t a d tm)
    (hv6 : ∃ b0, u8 (pkt.take bufSize) 0 = some b0 ∧ b0 / 16 = 6) : d = decide (a = s.cfg.target) := by
  obtain ⟨v, q, sp, dp, g⟩ := genuineUdp6_iff.mp (udp6_sound h hv6)
  exact g.dest

/-- TCP SYN: a destination mark means a SYN-ACK / RST on the exact reversed tuple (from the target
    address and port to our address and port); no mark means a time-exceeded quoting the probe -/
theorem c04_tcp_dest_iff {s : TcpSt} {pkt : Bytes} {t : Nat} {a : Bytes} {d : Bool} {tm : Nat}
    (h : tcpRecv s pkt = .accept t a d tm) (hv4 : ∃ b0, u8 (pkt.take bufSize) 0 = some b0 ∧ b0 / 16 = 4) :
    (d = true → genuineTcpDirect s.cfg s.sent t a (pkt.take bufSize) = true) ∧
    (d = false → genuineTcpQuoted s.cfg s.sent t a (pkt.take bufSize) = true) := by
  have hg := tcp_sound h hv4
  constructor <;> rintro rfl <;> exact hg

/-- the TCP direct form is only genuine for the target address -/
theorem c04_tcp_direct_from_target {c : TcpCfg} {sent : List Sent} {t : Nat} {a p : Bytes}
    (h : genuineTcpDirect c sent t a p = true) : a = c.target := by
  obtain ⟨v, sp, dp, ack, fl, last, g⟩ := genuineTcpDirect_iff.mp h
  exact g.target

/-- SACK: a time-exceeded marks the destination exactly when the target itself sent it; a
    selective ACK is only accepted from the target -/
theorem c04_sack_dest_iff {s : SackSt} {pkt : Bytes} {t : Nat} {a : Bytes} {d : Bool} {tm : Nat}
    (h : sackRecv s pkt = .accept t a d tm) (hv4 : ∃ b0, u8 (pkt.take bufSize) 0 = some b0 ∧ b0 / 16 = 4) :
    (d = false → genuineSackQuoted s.cfg s.sent t a false (pkt.take bufSize) = true ∧ a ≠ s.cfg.target) ∧
    (d = true → a = s.cfg.target) := by
  have hg := genuineSack_iff.mp (sack_sound h hv4)
  have hq : ∀ {dd}, genuineSackQuoted s.cfg s.sent t a dd (pkt.take bufSize) = true →
      dd = decide (a = s.cfg.target) := by
    intro dd hq
    obtain ⟨v, q, sp, dp, sq, g⟩ := genuineSackQuoted_iff.mp hq
    exact g.dest
  constructor
  · rintro rfl
    rcases hg with hg | ⟨hd, _⟩
    · exact ⟨hg, of_decide_eq_false (hq hg).symm⟩
    · cases hd
  · rintro rfl
    rcases hg with hg | ⟨_, hg⟩
    · exact of_decide_eq_true (hq hg).symm
    · obtain ⟨v, sp, dp, b12, fl, ob, opts, g⟩ := genuineSackDirect_iff.mp hg
      exact g.target

/-- the mark survives the engine unmixed ("the reply USED for the hop"): in the parallel engine's
    result the slot for TTL `t` carries the destination mark exactly when one of the accepted replies
    for `t` is a destination reply, and the slot then IS one accepted reply in its entirety — the
    address and RTT are that reply's, never an earlier router's with the mark added -/
theorem c04_engine_slot_dest_iff (σ : List Engine.Probe) (t : Nat) (q : Engine.Probe)
    (h : Engine.merge σ t = some q) :
    (q ∈ σ ∧ q.ttl = t) ∧ (q.dest = true ↔ ∃ p ∈ σ, p.ttl = t ∧ p.dest = true) := by
  rw [TRV.Proofs.merge_eq_best] at h
  refine ⟨best_some h, ?_⟩
  -- the slot's mark is `isDestSlot (best σ t)`, which is `destAnswered σ t`
  have hd : q.dest = Spec.destAnswered σ t := by rw [← best_isDest, h]; rfl
  rw [hd, Spec.destAnswered, List.any_eq_true]
  simp only [Bool.and_eq_true, decide_eq_true_eq]

#print axioms c04_icmp4_dest_iff
#print axioms c04_icmp6_dest_from_target
#print axioms c04_udp4_dest_iff
#print axioms c04_udp6_dest_iff
#print axioms c04_tcp_dest_iff
#print axioms c04_tcp_direct_from_target
#print axioms c04_sack_dest_iff
#print axioms c04_engine_slot_dest_iff
end TRV.Props.C04
