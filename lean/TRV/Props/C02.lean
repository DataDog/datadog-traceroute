import TRV.Proofs.Engine
import TRV.Proofs.Complete6
import TRV.Props.C02Opts
/-!
# C02 — Recognition completeness: every genuine reply form yields its hop

Two layers.

* Matcher level (`c02_*_view`): whenever the decoded view of a packet carries the identifying
  fields of a reply to a probe this run has sent, the driver model ACCEPTS it with the probed TTL,
  the responder's address and the destination flag of C04 — there is no further hidden condition
  (in particular strict source checking looks at the QUOTED source, and relaxed checking at nothing).
  Together with the decoders' success on well-formed packets this is the converse of C01.
* Engine level (`c02_parallel_reported`, parallel engine): an accepted reply for TTL t that is not
  beyond the destination hop is reported in the hop list (first accepted reply per TTL).

Byte level (`c02_*_bytes`): for the ICMP-error family of the catalogue — time-exceeded /
destination-unreachable from any router, ARBITRARY outer TOS/id/TTL/checksum, arbitrary ICMP code
where the driver allows it, arbitrary 4 bytes after the ICMP checksum (unused field or RFC 4884
length), quoted header with arbitrary rewritten TOS/TTL/checksum/flags and any quoted length ≥ 28,
followed by any trailing bytes (28-byte quote, full datagram, RFC 4884 padding + extension objects)
— the matcher models accept, for every TTL, identifier base and ISN (wrap-around included); likewise
the destination's own answers (echo reply, SYN-ACK / RST / RST-ACK, selective ACK) and the IPv6
forms.  Every form is bounded by `hsize`: the whole packet fits the drivers' read buffer of 1024
bytes (`Wire.bufSize`).  A longer reply, which `Read` cuts, is covered by no byte-level theorem.  The IPv4 theorems are the instances, at header length 5 and data offset 5 with no option
bytes, of those of `Props/C02Opts.lean` (any IPv4 and TCP options the decoders accept); IPv6 behind a
hop-by-hop header: `Props/C02Hbh.lean`.  The wire forms are tied to the real drivers by the catalogue
correspondence run (`TestC02`), form by form.
-/
namespace TRV.Props.C02
open TRV TRV.Wire TRV.Drv TRV.Spec TRV.Proofs TRV.Engine

/-- ICMP/IPv4 time-exceeded (any code) quoting our echo request -/
theorem c02_icmp4_te_view {s : IcmpSt} {pkt : Bytes} {h : IP4} {i : ICMP4} {info : ICMPInfo} {t : Nat} {p : Sent}
    (hne : pkt ≠ []) (hp : parse (pkt.take bufSize) = some (.v4 h, .icmp4 i)) (hty : i.type = 11)
    (hi : icmpInfo4 i = some info) (hd : info.qdst = s.cfg.target) (hs : info.qsrc = s.cfg.localA)
    (hpr : info.proto = 1)
    (he : parseEcho4 info.payload = some (s.cfg.echoId, t)) (hl : icmpLookup s t = some p) :
    icmpRecv s pkt = .accept t h.src false p.time :=
  icmpRecv_of_accepts hp (.te4 hty hi hd hs hpr he hl)

/-- ICMP/IPv4 echo reply from the target -/
theorem c02_icmp4_echo_view {s : IcmpSt} {pkt : Bytes} {h : IP4} {i : ICMP4} {p : Sent}
    (hne : pkt ≠ []) (hp : parse (pkt.take bufSize) = some (.v4 h, .icmp4 i)) (hty : i.type = 0)
    (hid : i.id = s.cfg.echoId) (hsrc : h.src = s.cfg.target) (hl : icmpLookup s i.seq = some p) :
    icmpRecv s pkt = .accept i.seq h.src true p.time :=
  icmpRecv_of_accepts hp (.echo4 hty hid hsrc hl)

/-- UDP over IPv4: matched ICMP error quoting our datagram; relaxed mode ignores the quoted source,
    strict mode needs it to be the probe's own.  (The IPv6 arm of the same code path is
    `UdpAccepts.err6`; `c02_udp6_err_bytes` goes through it.) -/
theorem c02_udp4_view {s : UdpSt} {pkt : Bytes} {h : IP4} {i : ICMP4} {info : ICMPInfo} {sp dp : Nat} {p : Sent}
    (hne : pkt ≠ []) (hp : parse (pkt.take bufSize) = some (.v4 h, .icmp4 i))
    (hty : (i.type = 11 ∧ i.code = 0) ∨ i.type = 3) (hi : icmpInfo4 i = some info) (hpr : info.proto = 17)
    (hq : quotedPorts info.payload = some (sp, dp)) (hd : info.qdst = s.cfg.target ∧ dp = s.cfg.tport)
    (hs : s.cfg.loosen = true ∨ (info.qsrc = s.cfg.localA ∧ sp = s.cfg.lport))
    (hf : s.sent.find? (·.id = info.wrappedId) = some p) :
    udpRecv s pkt = .accept p.ttl h.src (decide (h.src = s.cfg.target)) p.time :=
  udpRecv_of_accepts hp (.err4 hty hi hpr hq hd hs hf)

/-- TCP SYN: time-exceeded quoting the (IP id, sequence number) of a sent probe -/
theorem c02_tcp_te_view {s : TcpSt} {pkt : Bytes} {h : IP4} {i : ICMP4} {info : ICMPInfo} {sp dp sq : Nat} {p : Sent}
    (hne : pkt ≠ []) (hp : parse (pkt.take bufSize) = some (.v4 h, .icmp4 i))
    (hty : i.type = 11 ∧ i.code = 0) (hi : icmpInfo4 i = some info) (hpr : info.proto = 6)
    (hq : quotedPorts info.payload = some (sp, dp)) (hsq : quotedSeq info.payload = some sq)
    (hd : info.qdst = s.cfg.target ∧ dp = s.cfg.tport)
    (hs : s.cfg.loosen = true ∨ (info.qsrc = s.cfg.localA ∧ sp = s.cfg.lport))
    (hf : s.sent.find? (fun x => x.id = info.wrappedId ∧ x.seq = sq) = some p) :
    tcpRecv s pkt = .accept p.ttl h.src false p.time :=
  tcpRecv_of_accepts hp (.te hty hi hpr hq hsq hd hs hf)

/-- TCP SYN: SYN-ACK / RST / RST-ACK on the reversed tuple, acknowledging the last probe -/
theorem c02_tcp_direct_view {s : TcpSt} {pkt : Bytes} {h : IP4} {t : TCP} {last : Sent}
    (hne : pkt ≠ []) (hp : parse (pkt.take bufSize) = some (.v4 h, .tcp t))
    (hfl : (t.syn = true ∧ t.ackf = true) ∨ t.rst = true)
    (hpair : h.src = s.cfg.target ∧ h.dst = s.cfg.localA) (hsp : s.cfg.tport = t.sport) (hdp : s.cfg.lport = t.dport)
    (hlast : s.sent.getLast? = some last)
    (hack : t.ackf = true → last.seq = (t.ack + 4294967295) % 4294967296) :
    tcpRecv s pkt = .accept last.ttl h.src true last.time :=
  tcpRecv_of_accepts hp (.direct hfl hpair hsp hdp hlast hack)

/-- SACK: selective ACK from the target whose smallest relative left edge is a sent TTL -/
theorem c02_sack_direct_view {s : SackSt} {pkt : Bytes} {h : IP4} {t : TCP} {rel : Nat} {p : Sent}
    (hne : pkt ≠ []) (hp : parse (pkt.take bufSize) = some (.v4 h, .tcp t))
    (hpair : h.src = s.cfg.target ∧ h.dst = s.cfg.localA) (hsp : s.cfg.tport = t.sport) (hdp : s.cfg.lport = t.dport)
    (hfl : t.syn = false ∧ t.fin = false ∧ t.rst = false)
    (hm : minSack s.cfg.isn t.opts = some rel) (hl : sackLookup s rel = some p) :
    sackRecv s pkt = .accept rel h.src true p.time :=
  sackRecv_of_accepts hp (.direct hpair hsp hdp hfl hm hl)

/-- SACK: time-exceeded quoting sequence number ISN + t; strict mode compares the QUOTED source -/
theorem c02_sack_te_view {s : SackSt} {pkt : Bytes} {h : IP4} {i : ICMP4} {info : ICMPInfo} {sp dp sq : Nat} {p : Sent}
    (hne : pkt ≠ []) (hp : parse (pkt.take bufSize) = some (.v4 h, .icmp4 i))
    (hty : i.type = 11 ∧ i.code = 0) (hi : icmpInfo4 i = some info) (hpr : info.proto = 6)
    (hq : quotedPorts info.payload = some (sp, dp)) (hsq : quotedSeq info.payload = some sq)
    (hd : info.qdst = s.cfg.target ∧ dp = s.cfg.tport)
    (hs : s.cfg.loosen = true ∨ (info.qsrc = s.cfg.localA ∧ sp = s.cfg.lport))
    (hl : sackLookup s ((sq + 4294967296 - s.cfg.isn % 4294967296) % 4294967296) = some p) :
    sackRecv s pkt = .accept ((sq + 4294967296 - s.cfg.isn % 4294967296) % 4294967296) h.src
      (decide (h.src = s.cfg.target)) p.time :=
  sackRecv_of_accepts hp (.te hty hi hpr hq hsq hd hs hl)

/-- engine level, parallel: every accepted reply whose TTL is not beyond the destination hop is
    reported — its slot holds an accepted reply for that TTL (the earliest, or a destination reply) -/
theorem c02_parallel_reported {min max : Nat} {outs : List ROut} {r : List (Option Probe)} {p : Probe}
    (h : parallelRun min max true outs false false = .ok r) (hp : p ∈ accepted outs)
    (hcut : p.ttl ≤ cutOf (accepted outs) max) :
    ∃ q ∈ accepted outs, q.ttl = p.ttl ∧ r[p.ttl - min]? = some (some q) := by
  obtain ⟨rfl, -, hv⟩ := parallel_result h
  have hvp := validProbe_iff.mp (hv p hp)
  obtain ⟨q, hq1, hq2, hq3, -⟩ := all_reflected (accepted outs) p hp
  refine ⟨q, hq2, hq3, ?_⟩
  -- slot `p.ttl - min` of the result holds `best` at TTL `min + (p.ttl - min)`
  rw [expected, List.getElem?_map, List.getElem?_range' (by omega), Option.map_some, Nat.one_mul,
    Nat.add_sub_cancel' hvp.1, ← merge_eq_best, hq1]

/-- ICMP/IPv4, bytes: time-exceeded (any code) from any router `r` quoting our echo request (quoted
    type 8 or 0, our identifier, sequence number = the TTL), any trailing bytes -/
theorem c02_icmp4_te_bytes {s : IcmpSt} {t : Nat} {p : Sent}
    {otos oid ottl ock code ick qtos qlen qid qff qttl qck ety ecode eck : Nat} {r rest4 extra : Bytes}
    (hl : s.cfg.localA.length = 4) (htg : s.cfg.target.length = 4) (hr : r.length = 4) (hrest : rest4.length = 4)
    (b1 : otos < 256) (b2 : oid < 65536) (b3 : ottl < 256) (b4 : code < 256)
    (b5 : qtos < 256) (b6 : 28 ≤ qlen) (b7 : qlen < 65536) (b8 : qid < 65536) (b9 : qff < 65536) (b10 : qttl < 256)
    (b11 : ety = 8 ∨ ety = 0) (b12 : ecode < 256) (b13 : s.cfg.echoId < 65536) (b14 : t < 65536)
    (hsize : 28 + (28 + extra.length) ≤ 1024) (hlk : icmpLookup s t = some p) :
    icmpRecv s (icmpMsg4 otos oid ottl ock r s.cfg.localA 11 code ick rest4
        (rawHdr4 qtos qlen qid qff qttl 1 qck s.cfg.localA s.cfg.target ++
          (([byte ety, byte ecode] ++ be16 eck ++ be16 s.cfg.echoId ++ be16 t) ++ extra))) =
      .accept t r false p.time := by
  rw [icmpMsg4_eq, rawHdr4_eq]
  exact C02Opts.c02_icmp4_te_bytes_opts hl htg hr hrest (by decide) (by decide) rfl rfl (by decide) (by decide) rfl rfl
    b1 b2 b3 b4 b5 b6 b7 b8 b9 b10 b11 b12 b13 b14 hsize hlk

/-- UDP/IPv4, bytes: time-exceeded (code 0) / destination-unreachable (any code) quoting our datagram
    (quoted IP id = the probe's identifier; `w`: quoted UDP length and checksum, not looked at), any
    trailing bytes -/
theorem c02_udp4_err_bytes {s : UdpSt} {p : Sent}
    {otos oid ottl ock ty code ick qtos qlen qff qttl qck : Nat} {r rest4 w extra : Bytes}
    (hl : s.cfg.localA.length = 4) (htg : s.cfg.target.length = 4) (hr : r.length = 4) (hrest : rest4.length = 4)
    (hw : w.length = 4)
    (b1 : otos < 256) (b2 : oid < 65536) (b3 : ottl < 256) (b4 : code < 256) (hty : (ty = 11 ∧ code = 0) ∨ ty = 3)
    (b5 : qtos < 256) (b6 : 28 ≤ qlen) (b7 : qlen < 65536) (b8 : p.id < 65536) (b9 : qff < 65536) (b10 : qttl < 256)
    (b11 : s.cfg.lport < 65536) (b12 : s.cfg.tport < 65536)
    (hsize : 28 + (28 + extra.length) ≤ 1024) (hf : s.sent.find? (·.id = p.id) = some p) :
    udpRecv s (icmpMsg4 otos oid ottl ock r s.cfg.localA ty code ick rest4
        (rawHdr4 qtos qlen p.id qff qttl 17 qck s.cfg.localA s.cfg.target ++
          ((be16 s.cfg.lport ++ be16 s.cfg.tport ++ w) ++ extra))) =
      .accept p.ttl r (decide (r = s.cfg.target)) p.time := by
  rw [icmpMsg4_eq, rawHdr4_eq]
  exact C02Opts.c02_udp4_err_bytes_opts hl htg hr hrest hw (by decide) (by decide) rfl rfl (by decide) (by decide) rfl rfl
    b1 b2 b3 b4 hty b5 b6 b7 b8 b9 b10 b11 b12 hsize hf

/-- TCP SYN, bytes: time-exceeded (code 0) quoting the IP id and the sequence number of a sent SYN,
    any trailing bytes -/
theorem c02_tcp_te_bytes {s : TcpSt} {p : Sent}
    {otos oid ottl ock ick qtos qlen qff qttl qck : Nat} {r rest4 extra : Bytes}
    (hl : s.cfg.localA.length = 4) (htg : s.cfg.target.length = 4) (hr : r.length = 4) (hrest : rest4.length = 4)
    (b1 : otos < 256) (b2 : oid < 65536) (b3 : ottl < 256)
    (b5 : qtos < 256) (b6 : 28 ≤ qlen) (b7 : qlen < 65536) (b8 : p.id < 65536) (b9 : qff < 65536) (b10 : qttl < 256)
    (b11 : s.cfg.lport < 65536) (b12 : s.cfg.tport < 65536) (b13 : p.seq < 4294967296)
    (hsize : 28 + (28 + extra.length) ≤ 1024)
    (hf : s.sent.find? (fun x => x.id = p.id ∧ x.seq = p.seq) = some p) :
    tcpRecv s (icmpMsg4 otos oid ottl ock r s.cfg.localA 11 0 ick rest4
        (rawHdr4 qtos qlen p.id qff qttl 6 qck s.cfg.localA s.cfg.target ++
          ((be16 s.cfg.lport ++ be16 s.cfg.tport ++ be32 p.seq) ++ extra))) =
      .accept p.ttl r false p.time := by
  rw [icmpMsg4_eq, rawHdr4_eq]
  exact C02Opts.c02_tcp_te_bytes_opts hl htg hr hrest (by decide) (by decide) rfl rfl (by decide) (by decide) rfl rfl
    b1 b2 b3 b5 b6 b7 b8 b9 b10 b11 b12 b13 hsize hf

/-- SACK, bytes: time-exceeded (code 0) quoting sequence number ISN + t (every ISN, wrap-around
    included), any trailing bytes -/
theorem c02_sack_te_bytes {s : SackSt} {t : Nat} {p : Sent}
    {otos oid ottl ock ick qtos qlen qid qff qttl qck : Nat} {r rest4 extra : Bytes}
    (hl : s.cfg.localA.length = 4) (htg : s.cfg.target.length = 4) (hr : r.length = 4) (hrest : rest4.length = 4)
    (b1 : otos < 256) (b2 : oid < 65536) (b3 : ottl < 256)
    (b5 : qtos < 256) (b6 : 28 ≤ qlen) (b7 : qlen < 65536) (b8 : qid < 65536) (b9 : qff < 65536) (b10 : qttl < 256)
    (b11 : s.cfg.lport < 65536) (b12 : s.cfg.tport < 65536) (b13 : s.cfg.isn < 4294967296) (b14 : t < 4294967296)
    (hsize : 28 + (28 + extra.length) ≤ 1024) (hlk : sackLookup s t = some p) :
    sackRecv s (icmpMsg4 otos oid ottl ock r s.cfg.localA 11 0 ick rest4
        (rawHdr4 qtos qlen qid qff qttl 6 qck s.cfg.localA s.cfg.target ++
          ((be16 s.cfg.lport ++ be16 s.cfg.tport ++ be32 ((s.cfg.isn + t) % 4294967296)) ++ extra))) =
      .accept t r (decide (r = s.cfg.target)) p.time := by
  rw [icmpMsg4_eq, rawHdr4_eq]
  exact C02Opts.c02_sack_te_bytes_opts hl htg hr hrest (by decide) (by decide) rfl rfl (by decide) (by decide) rfl rfl
    b1 b2 b3 b5 b6 b7 b8 b9 b10 b11 b12 b13 b14 hsize hlk

/-- ICMP/IPv4, bytes, destination form: echo reply of the target -/
theorem c02_icmp4_echo_bytes {s : IcmpSt} {t : Nat} {p : Sent}
    {otos oid ottl ock code ick : Nat} {body : Bytes}
    (hl : s.cfg.localA.length = 4) (htg : s.cfg.target.length = 4)
    (b1 : otos < 256) (b2 : oid < 65536) (b3 : ottl < 256) (b4 : code < 256)
    (b13 : s.cfg.echoId < 65536) (b14 : t < 65536)
    (hsize : 28 + body.length ≤ 1024) (hlk : icmpLookup s t = some p) :
    icmpRecv s (icmpMsg4 otos oid ottl ock s.cfg.target s.cfg.localA 0 code ick (be16 s.cfg.echoId ++ be16 t) body) =
      .accept t s.cfg.target true p.time := by
  rw [icmpMsg4_eq]
  exact C02Opts.c02_icmp4_echo_bytes_opts hl htg (by decide) (by decide) rfl rfl b1 b2 b3 b4 b13 b14 hsize hlk

/-- TCP SYN, bytes, direct forms: SYN-ACK / RST / RST-ACK without TCP options (any other flag bits,
    sequence number, window, checksum, urgent pointer, payload; DF or not), acknowledging the last
    probe when ACK is set (replies WITH options: `C02Opts.c02_tcp_direct_bytes_allopts`) -/
theorem c02_tcp_direct_bytes {s : TcpSt} {last : Sent}
    {otos oid ff ottl ock seq ack fl win ck urg : Nat} {pl : Bytes}
    (hl : s.cfg.localA.length = 4) (htg : s.cfg.target.length = 4)
    (h1 : otos < 256) (h2 : oid < 65536) (h3 : ottl < 256) (hff : ff < 65536) (hfr : ff % 16384 = 0)
    (b1 : s.cfg.tport < 65536) (b2 : s.cfg.lport < 65536) (b3 : seq < 4294967296) (b4 : ack < 4294967296) (b5 : fl < 256)
    (hfl : ((fl / 2) % 2 = 1 ∧ (fl / 16) % 2 = 1) ∨ (fl / 4) % 2 = 1)
    (hlast : s.sent.getLast? = some last)
    (hack : (fl / 16) % 2 = 1 → last.seq = (ack + 4294967295) % 4294967296)
    (hsize : 40 + pl.length ≤ 1024) :
    tcpRecv s (tcpMsg4 otos oid ff ottl ock s.cfg.target s.cfg.localA s.cfg.tport s.cfg.lport seq ack fl win ck urg pl) =
      .accept last.ttl s.cfg.target true last.time := by
  rw [tcpMsg4_eq]
  exact C02Opts.c02_tcp_direct_bytes_allopts hl htg (by decide) (by decide) rfl rfl (by decide) (by decide) rfl rfl
    h1 h2 h3 hff hfr b1 b2 b3 b4 b5 hfl hlast hack (by omega)

/-- SACK, bytes, direct form: an ACK carrying NOP NOP SACK(one block) whose left edge is ISN + t
    (every ISN, wrap-around included); other option layouts: `C02Opts.c02_sack_direct_bytes_allopts` -/
theorem c02_sack_direct_bytes {s : SackSt} {t : Nat} {p : Sent}
    {otos oid ff ottl ock seq ack fl win ck urg right : Nat} {pl : Bytes}
    (hl : s.cfg.localA.length = 4) (htg : s.cfg.target.length = 4)
    (h1 : otos < 256) (h2 : oid < 65536) (h3 : ottl < 256) (hff : ff < 65536) (hfr : ff % 16384 = 0)
    (b1 : s.cfg.tport < 65536) (b2 : s.cfg.lport < 65536) (b3 : seq < 4294967296) (b4 : ack < 4294967296) (b5 : fl < 256)
    (hfl : fl % 2 = 0 ∧ (fl / 2) % 2 = 0 ∧ (fl / 4) % 2 = 0)
    (b6 : s.cfg.isn < 4294967296) (b7 : t < 4294967296) (b8 : right < 4294967296)
    (hsize : 52 + pl.length ≤ 1024) (hlk : sackLookup s t = some p) :
    sackRecv s (rawHdr4 otos (52 + pl.length) oid ff ottl 6 ock s.cfg.target s.cfg.localA ++
        (rawTcpSack s.cfg.tport s.cfg.lport seq ack fl win ck urg ((s.cfg.isn + t) % 4294967296) right ++ pl)) =
      .accept t s.cfg.target true p.time := by
  rw [rawHdr4_eq]
  exact C02Opts.c02_sack_direct_bytes_opts hl htg (by decide) (by decide) rfl rfl h1 h2 h3 hff hfr b1 b2 b3 b4 b5 hfl b6 b7 b8
    hsize hlk

/-- ICMP/IPv6, bytes: echo reply of the target.  In the three IPv6 theorems `ob1 ob2 ob3` (outer) and
    `qb1 qb2 qb3` (quoted) range over all 28 traffic-class / flow-label bits (see `rawHdr6`), so a
    header whose DSCP was rewritten on the way (first byte 0x61..0x6f) is covered. -/
theorem c02_icmp6_echo_bytes {s : IcmpSt} {t : Nat} {p : Sent}
    {ob1 ob2 ob3 ohop code ick : Nat} {body : Bytes}
    (hl : s.cfg.localA.length = 16) (htg : s.cfg.target.length = 16)
    (b3 : ohop < 256) (b4 : code < 256) (b13 : s.cfg.echoId < 65536) (b14 : t < 65536)
    (hsize : 48 + body.length ≤ 1024) (hlk : icmpLookup s t = some p) :
    icmpRecv s (icmpMsg6 ob1 ob2 ob3 ohop s.cfg.target s.cfg.localA 129 code ick (be16 s.cfg.echoId ++ be16 t) body) =
      .accept t s.cfg.target true p.time :=
  icmp6_echo_of_parse b13 b14 (parse_icmpMsg6 htg hl rfl b3 (by omega) b4 hsize) hlk

/-- ICMP/IPv6, bytes: time-exceeded (any code) quoting our echo request, any trailing bytes -/
theorem c02_icmp6_te_bytes {s : IcmpSt} {t : Nat} {p : Sent}
    {ob1 ob2 ob3 ohop code ick qb1 qb2 qb3 qplen qhop ety ecode eck : Nat} {r rest4 extra : Bytes}
    (hl : s.cfg.localA.length = 16) (htg : s.cfg.target.length = 16) (hr : r.length = 16) (hrest : rest4.length = 4)
    (b3 : ohop < 256) (b4 : code < 256) (b6 : 8 ≤ qplen) (b7 : qplen < 65536) (b10 : qhop < 256)
    (b11 : ety = 128 ∨ ety = 129) (b12 : ecode < 256) (b13 : s.cfg.echoId < 65536) (b14 : t < 65536)
    (hsize : 48 + (48 + extra.length) ≤ 1024) (hlk : icmpLookup s t = some p) :
    icmpRecv s (icmpMsg6 ob1 ob2 ob3 ohop r s.cfg.localA 3 code ick rest4
        (rawHdr6 qb1 qb2 qb3 qplen 58 qhop s.cfg.localA s.cfg.target ++
          (([byte ety, byte ecode] ++ be16 eck ++ be16 s.cfg.echoId ++ be16 t) ++ extra))) =
      .accept t r false p.time :=
  icmp6_te_of_parse hl htg hrest b6 b7 b10 b11 b12 b13 b14
    (parse_icmpMsg6 hr hl hrest b3 (by omega) b4 (by rw [quoted6_length hl htg rfl]; exact hsize)) hlk

/-- UDP/IPv6, bytes: time-exceeded (code 0) / destination-unreachable quoting our datagram (quoted
    payload length = the probe's identifier), any trailing bytes -/
theorem c02_udp6_err_bytes {s : UdpSt} {p : Sent}
    {ob1 ob2 ob3 ohop ty code ick qb1 qb2 qb3 qhop : Nat} {r rest4 w extra : Bytes}
    (hl : s.cfg.localA.length = 16) (htg : s.cfg.target.length = 16) (hr : r.length = 16) (hrest : rest4.length = 4)
    (hw : w.length = 4)
    (b3 : ohop < 256) (b4 : code < 256) (hty : (ty = 3 ∧ code = 0) ∨ ty = 1)
    (b6 : 8 ≤ p.id) (b7 : p.id < 65536) (b10 : qhop < 256)
    (b11 : s.cfg.lport < 65536) (b12 : s.cfg.tport < 65536)
    (hsize : 48 + (48 + extra.length) ≤ 1024) (hf : s.sent.find? (·.id = p.id) = some p) :
    udpRecv s (icmpMsg6 ob1 ob2 ob3 ohop r s.cfg.localA ty code ick rest4
        (rawHdr6 qb1 qb2 qb3 p.id 17 qhop s.cfg.localA s.cfg.target ++
          ((be16 s.cfg.lport ++ be16 s.cfg.tport ++ w) ++ extra))) =
      .accept p.ttl r (decide (r = s.cfg.target)) p.time :=
  udp6_err_of_parse hl htg hrest hw hty b6 b7 b10 b11 b12
    (parse_icmpMsg6 hr hl hrest b3 (by rcases hty with ⟨h, _⟩ | h <;> omega) b4
      (by rw [quoted6_length hl htg (by simp [be16, hw])]; exact hsize)) hf

/-- non-vacuity: a SYN-ACK with DF, ECE and a payload byte acknowledging the last probe (seq 0xffffffff:
    the acknowledgement number wraps to 0) -/
example :
    let cfg : TcpCfg := { localA := [192,0,2,2], lport := 40000, target := [198,51,100,9], tport := 443, loosen := false,
                          paris := false, baseId := 41820, seq := 4294967295 }
    let st : TcpSt := { cfg, sent := [{ ttl := 4, id := 41824, seq := 4294967295, time := 77 }] }
    tcpRecv st (tcpMsg4 0 0 0x4000 61 0xbeef [198,51,100,9] [192,0,2,2] 443 40000 0x51f3a9c7 0 0x52 65535 0 0 [0xaa]) =
      .accept 4 [198,51,100,9] true 77 := by decide +kernel

/-- non-vacuity of the byte-level theorems: a concrete RFC 4884 style reply (quote padded to 128
    bytes + an extension object) for TTL 3 is accepted -/
example :
    let cfg : IcmpCfg := { localA := [192,0,2,2], target := [198,51,100,9], echoId := 0x1234, min := 1, max := 30 }
    let st : IcmpSt := { cfg, sent := [{ ttl := 3, id := 0x1234, seq := 3, time := 100 }] }
    icmpRecv st (icmpMsg4 0xc0 7 250 0xbeef [10,9,8,7] [192,0,2,2] 11 0 0 [0,32,0,0]
      (rawHdr4 0 29 0x1234 0 1 1 0xabcd [192,0,2,2] [198,51,100,9] ++
        (([byte 8, byte 0] ++ be16 0 ++ be16 0x1234 ++ be16 3) ++ (List.replicate 100 0 ++ [0x20,0,0,0,0,8,1,1,0,0x3e,0x81,1])))) =
      .accept 3 [10,9,8,7] false 100 := by decide +kernel

/-- non-vacuity for a re-marked quote (kernel evaluation): time-exceeded quoting our echo request whose
    quoted traffic class was rewritten to CS6 (0xc0: first quoted byte 0x6c) is accepted for TTL 3 -/
example :
    let cfg : IcmpCfg := { localA := List.replicate 15 0 ++ [1], target := List.replicate 15 0 ++ [9], echoId := 0x1234, min := 1, max := 30 }
    let st : IcmpSt := { cfg, sent := [{ ttl := 3, id := 0x1234, seq := 3, time := 100 }] }
    (rawHdr6 0xc00 0 0 8 58 1 cfg.localA cfg.target).head? = some 0x6c ∧
    icmpRecv st (icmpMsg6 0 0 0 250 (List.replicate 15 0 ++ [7]) cfg.localA 3 0 0 [0,0,0,0]
      (rawHdr6 0xc00 0 0 8 58 1 cfg.localA cfg.target ++
        (([byte 128, byte 0] ++ be16 0 ++ be16 0x1234 ++ be16 3) ++ []))) =
      .accept 3 (List.replicate 15 0 ++ [7]) false 100 := by decide +kernel

#print axioms c02_icmp4_te_bytes
#print axioms c02_udp4_err_bytes
#print axioms c02_tcp_te_bytes
#print axioms c02_sack_te_bytes
#print axioms c02_icmp4_echo_bytes
#print axioms c02_tcp_direct_bytes
#print axioms c02_sack_direct_bytes
#print axioms c02_icmp6_echo_bytes
#print axioms c02_icmp6_te_bytes
#print axioms c02_udp6_err_bytes
#print axioms c02_icmp4_te_view
#print axioms c02_icmp4_echo_view
#print axioms c02_udp4_view
#print axioms c02_tcp_te_view
#print axioms c02_tcp_direct_view
#print axioms c02_sack_direct_view
#print axioms c02_sack_te_view
#print axioms c02_parallel_reported
end TRV.Props.C02
