import TRV.Model.Alloc
import TRV.Model.Drivers
import TRV.Model.Engine
/-!
# Reference predicates for C11 (isolation of concurrent runs, identifier ranges)

Written from the property text:

* "Identifier ranges handed to concurrent runs (IP-ID blocks, echo identifiers) do not overlap":
  `Disjoint`, `PairwiseDisjoint`, `Distinct` (and executable `…B` versions the harness evaluates on
  the REAL allocators' return values).
* "to the same or different targets and with any mix of protocols": `FlowsDistinct…` says which
  identifying fields two concurrent runs of the same protocol differ in.  It is a HYPOTHESIS of the
  isolation theorems, discharged by what the operating system and the allocators guarantee:
  two sockets of one protocol that are bound at the same time have different local ports
  (`tcp/utils.go: reserveLocalPort`, `common.LocalAddrForHost` keep the socket open for the run;
  a connected SACK socket owns its 4-tuple), and live echo identifiers / IP-ID blocks are distinct
  (`c11_echo_distinct`, `c11_blocks_disjoint`).
-/
namespace TRV.Spec
open TRV TRV.Drv TRV.Alloc

/-! ## Identifier ranges -/

/-- two blocks share no identifier -/
def Disjoint (a b : Block) : Prop := ∀ x, x ∈ a.ids → x ∉ b.ids

instance (a b : Block) : Decidable (Disjoint a b) := by unfold Disjoint; exact inferInstance

/-- the blocks of distinct allocations are pairwise disjoint -/
def PairwiseDisjoint (bs : List Block) : Prop := bs.Pairwise Disjoint

/-- pairwise distinct identifiers -/
def Distinct (ids : List (BitVec 16)) : Prop := ids.Pairwise (· ≠ ·)

/-- executable: no identifier of `a` is an identifier of `b` -/
def disjointB (a b : Block) : Bool := a.ids.all (fun x => !b.ids.contains x)

def pairwiseDisjointB : List Block → Bool
  | [] => true
  | a :: rest => rest.all (disjointB a) && pairwiseDisjointB rest

def distinctB : List (BitVec 16) → Bool
  | [] => true
  | a :: rest => !rest.contains a && distinctB rest

/-! ## Which fields distinguish two concurrent runs of one protocol -/

/-- ICMP echo: the echo identifiers differ, or the targets differ -/
def FlowsDistinctIcmp (a b : IcmpCfg) : Prop := a.echoId ≠ b.echoId ∨ a.target ≠ b.target

/-- target address:port differs -/
def TargetDiff (ta : Bytes) (pa : Nat) (tb : Bytes) (pb : Nat) : Prop := ta ≠ tb ∨ pa ≠ pb

/-- local address:port differs -/
def LocalDiff (la : Bytes) (pa : Nat) (lb : Bytes) (pb : Nat) : Prop := la ≠ lb ∨ pa ≠ pb

/-- UDP: the target addr:port differs; or BOTH runs check the quoted source strictly
    (`LoosenICMPSrc = false`) and the local addr:port differs.  With a relaxed source check the
    local port is not looked at and every UDP run uses the same IP ids 41821 + ttl, so only the
    target distinguishes runs. -/
def FlowsDistinctUdp (a b : UdpCfg) : Prop :=
  TargetDiff a.target a.tport b.target b.tport ∨
  (a.loosen = false ∧ b.loosen = false ∧ LocalDiff a.localA a.lport b.localA b.lport)

/-- the (IP id, sequence number) pairs of two runs' probes are disjoint -/
def IdsDisjoint (sa sb : List Sent) : Prop := ∀ x ∈ sa, ∀ y ∈ sb, ¬ (x.id = y.id ∧ x.seq = y.seq)

/-- TCP SYN: the target addr:port differs; or the local addr:port differs and (both runs check the
    quoted source strictly, or their probes' (IP id, sequence number) pairs are disjoint — which is
    what disjoint `AllocPacketID` blocks give in the default mode).  The local addr:port is needed
    in every mode for the direct replies (SYN-ACK / RST), which carry no per-probe identifier. -/
def FlowsDistinctTcp (a b : TcpCfg) (sa sb : List Sent) : Prop :=
  TargetDiff a.target a.tport b.target b.tport ∨
  (LocalDiff a.localA a.lport b.localA b.lport ∧ ((a.loosen = false ∧ b.loosen = false) ∨ IdsDisjoint sa sb))

/-- the probe sequence-number windows `ISN + [min, max]` (mod 2^32) of two SACK runs are disjoint -/
def SeqWindowsDisjoint (a b : SackCfg) : Prop :=
  ∀ t t', a.min ≤ t → t ≤ a.max → b.min ≤ t' → t' ≤ b.max →
    (a.isn + t) % 4294967296 ≠ (b.isn + t') % 4294967296

/-- SACK: the target addr:port differs; or the local addr:port differs and (both strict, or the
    sequence-number windows are disjoint) -/
def FlowsDistinctSack (a b : SackCfg) : Prop :=
  TargetDiff a.target a.tport b.target b.tport ∨
  (LocalDiff a.localA a.lport b.localA b.lport ∧ ((a.loosen = false ∧ b.loosen = false) ∨ SeqWindowsDisjoint a b))

/-- UDP run `u` next to TCP-SYN run `c` (cross-protocol, see finding F11): the v4 matchers and the
    genuineness predicates do not look at the quoted IP protocol, and UDP and TCP ports are
    different name spaces, so equal port NUMBERS are possible.  What separates the runs is: target
    addr:port; or local addr:port under strict checking on both sides; or no TCP probe carrying an
    IP id in the UDP range `41821 + ttl` of a sent UDP probe. -/
def FlowsDistinctUdpTcp (u : UdpCfg) (c : TcpCfg) (su sc : List Sent) : Prop :=
  TargetDiff u.target u.tport c.target c.tport ∨
  (u.loosen = false ∧ c.loosen = false ∧ LocalDiff u.localA u.lport c.localA c.lport) ∨
  (∀ x ∈ su, ∀ y ∈ sc, x.id ≠ y.id)

/-! ## Executable versions (the oracle evaluates these on the harness' scenarios; equivalence of the two
Bool forms with the `Prop`s above: `Proofs.seqWindowsDisjointB_iff`, `Props.C11.c11_flowsDistinctSackB_iff`) -/

instance (a b : IcmpCfg) : Decidable (FlowsDistinctIcmp a b) := by unfold FlowsDistinctIcmp; exact inferInstance
instance (ta : Bytes) (pa : Nat) (tb : Bytes) (pb : Nat) : Decidable (TargetDiff ta pa tb pb) := by
  unfold TargetDiff; exact inferInstance
instance (la : Bytes) (pa : Nat) (lb : Bytes) (pb : Nat) : Decidable (LocalDiff la pa lb pb) := by
  unfold LocalDiff; exact inferInstance
instance (a b : UdpCfg) : Decidable (FlowsDistinctUdp a b) := by unfold FlowsDistinctUdp; exact inferInstance
instance (sa sb : List Sent) : Decidable (IdsDisjoint sa sb) := by unfold IdsDisjoint; exact inferInstance
instance (a b : TcpCfg) (sa sb : List Sent) : Decidable (FlowsDistinctTcp a b sa sb) := by
  unfold FlowsDistinctTcp; exact inferInstance
instance (u : UdpCfg) (c : TcpCfg) (su sc : List Sent) : Decidable (FlowsDistinctUdpTcp u c su sc) := by
  unfold FlowsDistinctUdpTcp; exact inferInstance

def seqWindowsDisjointB (a b : SackCfg) : Bool :=
  (List.range' a.min (a.max + 1 - a.min)).all fun t =>
    (List.range' b.min (b.max + 1 - b.min)).all fun t' =>
      decide ((a.isn + t) % 4294967296 ≠ (b.isn + t') % 4294967296)

def flowsDistinctSackB (a b : SackCfg) : Bool :=
  decide (TargetDiff a.target a.tport b.target b.tport) ||
  (decide (LocalDiff a.localA a.lport b.localA b.lport) &&
    ((a.loosen == false && b.loosen == false) || seqWindowsDisjointB a b))

/-! ## Cross-protocol witness configuration (finding F11), see `Props.C11` section 5 -/

def f11Local : Bytes := [10, 0, 0, 1]
def f11Target : Bytes := [10, 0, 0, 9]
def f11Router : Bytes := [10, 9, 9, 3]

/-- ICMP time-exceeded (code 0) from `src` to `dst` quoting the datagram `q` in full -/
def f11TE (src dst q : Bytes) : Bytes :=
  let body (ck : Nat) : Bytes := [byte 11, byte 0] ++ be16 ck ++ [byte 0, byte 0, byte 0, byte 0] ++ q
  Build.ip4Header 0xc0 (20 + 8 + q.length) 0x1234 0 250 1 src dst ++ body (Build.cksum (Build.sum16 (body 0)))

def f11UdpCfg : UdpCfg := { localA := f11Local, lport := 40000, target := f11Target, tport := 443, loosen := false }
def f11TcpCfg : TcpCfg := { localA := f11Local, lport := 40000, target := f11Target, tport := 443, loosen := false,
                            paris := false, baseId := 41820, seq := 7 }

/-- the UDP run after `SendProbe(2)` at time 5 -/
def f11UdpSt : UdpSt := match udpSend { cfg := f11UdpCfg, sent := [] } 2 5 with
  | .ok s _ => s
  | .err => { cfg := f11UdpCfg, sent := [] }

/-- the TCP run after `SendProbe(3)` at time 6, and the SYN it wrote -/
def f11TcpSt : TcpSt × Bytes := match tcpSend { cfg := f11TcpCfg, sent := [] } 3 6 0 with
  | .ok s p => (s, p)
  | .err => ({ cfg := f11TcpCfg, sent := [] }, [])

/-- the router's reply to the TCP run's TTL-3 probe -/
def f11Pkt : Bytes := f11TE f11Router f11Local f11TcpSt.2

/-- reverse direction: the UDP run's TTL-2 datagram, and a TCP run whose constant sequence number
    equals the UDP header's length and checksum words -/
def f11UdpProbe : Bytes := Build.udp4 f11Local f11Target 40000 443 2
def f11TcpCfg' : TcpCfg := { f11TcpCfg with baseId := 41821, seq := (u32 f11UdpProbe 24).getD 0 }
def f11TcpSt' : TcpSt := match tcpSend { cfg := f11TcpCfg', sent := [] } 2 6 0 with
  | .ok s _ => s
  | .err => { cfg := f11TcpCfg', sent := [] }


/-! ## "The result it would produce alone"

On the shared wire a run's receiver sees its own replies plus the other runs' traffic.  When every
foreign packet is classified `retry` by the run's matcher (isolation), the outcome list consumed on
the shared wire is the solo outcome list with extra `retry` entries inserted. -/

/-- an outcome list without its `retry` entries -/
def dropRetry : List Engine.ROut → List Engine.ROut
  | [] => []
  | .retry :: rest => dropRetry rest
  | .accept p :: rest => .accept p :: dropRetry rest
  | .fatal :: rest => .fatal :: dropRetry rest
  | .nilProbe :: rest => .nilProbe :: dropRetry rest

/-- two outcome lists differ only by `retry` entries -/
def SameUpToRetries (a b : List Engine.ROut) : Prop := dropRetry a = dropRetry b

end TRV.Spec
